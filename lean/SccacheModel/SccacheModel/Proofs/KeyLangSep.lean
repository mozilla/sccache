import SccacheModel.Proofs.Key

namespace CK

/-! The language tag is separated from what follows it (C02 `encHash_lang_sep`): where two pre-images agree, one tag
is a prefix of the other; over the regenerated table the missing piece is then empty or one of `tagExtensions`, and no
stream begins with one of those followed by a stream. -/

def NulFree8 (S : Bytes) : Prop := ∀ j, j < 8 → S[j]? ≠ some 0

theorem Head.get7_or_nulFree8 {P S : Bytes} : Head P S → S[7]? = some 0 ∨ NulFree8 S
  | .tok b X hb h => .inl (h ▸ encArg_get7 b X hb.1)
  | .hex _ X he h => .inr fun _ hj => h ▸ he.get X (by omega)
  | .pay hP h => .inr fun j _ => h ▸ nulfree_get P hP.1 j

theorem nulFree8_get7 (x S : Bytes) (hx : ∀ c ∈ x, c ≠ 0) (hS : NulFree8 S) : (x ++ S)[7]? ≠ some 0 := by
  intro hc
  by_cases h7 : 7 < x.length
  · rw [List.getElem?_append_left h7] at hc
    exact hx _ (List.mem_of_getElem? hc) rfl
  · rw [List.getElem?_append_right (by omega)] at hc
    exact hS _ (by omega) hc

theorem tok_vs_ext (b X x S : Bytes) (hb : ArgOK b) (hx : ∀ c ∈ x, c ≠ 0) (hxl : 0 < x.length) (hxl8 : x.length ≤ 8)
    (hx0 : 8 ≤ (x[0]'hxl).toNat) (hS : S[7]? = some 0 ∨ NulFree8 S) : encArg b ++ X ≠ x ++ S := by
  intro h
  rcases hS with hz | hn
  · -- the low byte of |b| is x[0] ≥ 8 ≥ |x|, so index |x| + 7 is a byte of b on the left and NUL on the right
    have hlen : x.length ≤ b.length := by
      have h0 := encArg_get0 b X
      rw [h, List.getElem?_append_left hxl, List.getElem?_eq_getElem hxl] at h0
      have := congrArg UInt8.toNat (Option.some.inj h0)
      simp at this
      omega
    have hi := encArg_get_add8 b X (x.length - 1)
    rw [h, show x.length - 1 + 8 = x.length + 7 by omega, List.getElem?_append_right (by omega),
      Nat.add_sub_cancel_left, hz, List.getElem?_append_left (by omega)] at hi
    exact hb.2 (List.mem_of_getElem? hi.symm)
  · exact nulFree8_get7 x S hx hn (h ▸ encArg_get7 b X hb.1)

-- `allLangs` is generated (Gen/KeyConsts.lean)
theorem mem_allLangs (l : Lang) : l ∈ allLangs := by cases l <;> decide

theorem tag_prefix_table : ∀ l1 ∈ allLangs, ∀ l2 ∈ allLangs, langTagBytes l1 <+: langTagBytes l2 →
    (langTagBytes l2).drop (langTagBytes l1).length ∈ [] :: tagExtensions := by
  decide

theorem tag_ext (l1 l2 : Lang) (x : Bytes) (h : langTagBytes l2 = langTagBytes l1 ++ x) : x = [] ∨ x ∈ tagExtensions := by
  have := tag_prefix_table l1 (mem_allLangs l1) l2 (mem_allLangs l2) ⟨x, h.symm⟩
  rw [h, List.drop_left] at this
  exact List.mem_cons.mp this

/-- what `tok_vs_ext` and `stream_vs_ext` use of the six extensions -/
theorem ext_props : ∀ x ∈ tagExtensions, (∀ c ∈ x, c ≠ 0) ∧ x.length ≤ 8 ∧
    ∃ h : 0 < x.length, 8 ≤ x[0].toNat ∧ isHexLower x[0] = false := by
  decide

theorem stream_vs_ext (x : Bytes) (hxm : x ∈ tagExtensions) {P₁ S₁ P₂ S₂ : Bytes} (h₁ : Head P₁ S₁) (h₂ : Head P₂ S₂)
    (hpay : ¬ x <+: P₁) : S₁ ≠ x ++ S₂ := by
  intro h
  obtain ⟨hnz, hle8, hpos, hge8, hnothex⟩ := ext_props x hxm
  cases h₁ with
  | tok b X hb hs => exact tok_vs_ext b X x S₂ hb hnz hpos hle8 hge8 h₂.get7_or_nulFree8 (hs ▸ h)
  | hex e X he hs =>
    -- the first byte is a hex digit on one side and not on the other
    have hel : 0 < e.length := by have := he.1; omega
    have h0 := congrArg (·[0]?) (hs ▸ h)
    simp only [List.getElem?_append_left hel, List.getElem?_append_left hpos, List.getElem?_eq_getElem, hel, hpos,
      Option.some.injEq] at h0
    have := List.all_eq_true.mp he.2 _ (List.getElem_mem hel)
    rw [h0, hnothex] at this
    cases this
  | pay _ hs => exact hpay ⟨S₂, (hs ▸ h).symm⟩

theorem encGen_lang_sep (ver : Bytes) (allow : List Bytes) (r1 r2 : CReq) (w1 : WF r1) (w2 : WF r2)
    (hext : ∀ x ∈ tagExtensions, ¬ (x <+: r1.pp) ∧ ¬ (x <+: r2.pp))
    (h : encGen ver allow r1 = encGen ver allow r2) : langTagBytes r1.lang = langTagBytes r2.lang := by
  obtain ⟨_, _, h⟩ := encGen_split ver allow r1 r2 w1 w2 h
  have h1 := w1.body_head allow
  have h2 := w2.body_head allow
  rcases List.append_eq_append_iff.mp h with ⟨x, hx, hS⟩ | ⟨x, hx, hS⟩
  · rcases tag_ext _ _ x hx with rfl | hm
    · simpa using hx.symm
    · exact absurd hS (stream_vs_ext x hm h1 h2 (hext x hm).1)
  · rcases tag_ext _ _ x hx with rfl | hm
    · simpa using hx
    · exact absurd hS (stream_vs_ext x hm h2 h1 (hext x hm).2)

/-- C02 `encHash_lang_sep`: equal pre-images of `c::hash_key` have equal language tags, unless a preprocessor output begins
    with what a longer tag would add (`tagExtensions`; F-C02-b is such a pair) -/
theorem encHash_lang_sep : EncHashLangSep := by
  intro r1 r2 w1 w2 hext h
  exact encGen_lang_sep cCacheVersion cCachedEnv r1 r2 w1 w2 hext h

#print axioms encHash_lang_sep

end CK
