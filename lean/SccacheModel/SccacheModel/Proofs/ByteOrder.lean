import SccacheModel.Model.RustArgs
import SccacheModel.Proofs.ListAux

/-! The order of byte strings (`str::cmp`, modelled by `RArgsM.cmpBytes`) is the lexicographic order core Lean puts on
    `List UInt8`, so its laws are core's. Used for the sorted argument tables (gcc, clang, rustc) and for `leB`. -/

namespace RArgsM

theorem cmpBytes_eq (a b : Bytes) : cmpBytes a b = if a < b then .lt else if b < a then .gt else .eq := by
  fun_induction cmpBytes a b with
  | case1 | case2 | case3 => simp
  | case4 x _ y _ h => simp [List.cons_lt_cons_iff, h]
  | case5 x _ y _ h1 h2 => simp [List.cons_lt_cons_iff, h1, h2, (UInt8.ne_of_lt h2).symm]
  | case6 x as y bs h1 h2 ih =>
    obtain rfl : x = y := UInt8.le_antisymm (UInt8.not_lt.1 h2) (UInt8.not_lt.1 h1)
    simp [ih]

theorem cmpBytes_lt_iff {a b : Bytes} : cmpBytes a b = .lt ↔ a < b := by
  rw [cmpBytes_eq]
  split
  · simp [*]
  · split <;> simp [*]

theorem cmpBytes_eq_eq (a b : Bytes) (h : cmpBytes a b = .eq) : a = b := by
  rw [cmpBytes_eq] at h
  split at h
  next => cases h
  next hab =>
    split at h
    next => cases h
    next hba => exact List.le_antisymm hba hab

theorem leB_iff {a b : Bytes} : leB a b = true ↔ a ≤ b := by
  rw [leB, cmpBytes_eq, ← List.not_lt]
  split
  next hab => simpa using List.lt_asymm hab
  next => split <;> simp [*]

theorem leB_total (a b : Bytes) : (leB a b || leB b a) = true := by
  simpa [leB_iff] using List.le_total a b

theorem leB_antisymm (a b : Bytes) (h1 : leB a b = true) (h2 : leB b a = true) : a = b :=
  List.le_antisymm (leB_iff.1 h1) (leB_iff.1 h2)

theorem leB_trans (a b c : Bytes) (h1 : leB a b = true) (h2 : leB b c = true) : leB a c = true :=
  leB_iff.2 (List.le_trans (leB_iff.1 h1) (leB_iff.1 h2))

theorem leB_refl (a : Bytes) : leB a a = true := leB_iff.2 (List.le_refl a)

theorem pairwise_lt_of_chain {α} (name : α → Bytes) (l : List α)
    (h : chainB (fun a b => cmpBytes (name a) (name b) == .lt) l = true) :
    l.Pairwise fun a b => cmpBytes (name a) (name b) = .lt := by
  refine (pairwise_of_chainB (fun a b c h1 h2 => ?_) l h).imp (by simp)
  simp only [beq_iff_eq, cmpBytes_lt_iff] at *
  exact List.lt_trans h1 h2

end RArgsM
