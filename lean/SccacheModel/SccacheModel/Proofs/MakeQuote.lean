import SccacheModel.Model.Args

/-! Reading a Make-quoted dependency target back (`makeQuote`, fix F-C01-o): `makeUnquote (makeQuote t) = t`. -/
namespace ArgsM

/-- how Make reads a target back: `$$` is `$` (`d` = the previous byte was the first `$` of a pair); a backslash before `#` goes;
    of 2n+1 backslashes before white space n stay; `k` = backslashes seen and not yet emitted -/
def makeUnquoteGo : Nat → Bool → Bytes → Bytes
  | k, _, [] => List.replicate k 92
  | k, d, c :: r =>
    if d && c == 36 then makeUnquoteGo 0 false r
    else if c == 92 then makeUnquoteGo (k + 1) false r
    else if c == 32 || c == 9 then List.replicate (k / 2) 92 ++ c :: makeUnquoteGo 0 false r
    else if c == 35 then List.replicate (k - 1) 92 ++ c :: makeUnquoteGo 0 false r
    else if c == 36 then List.replicate k 92 ++ c :: makeUnquoteGo 0 true r
    else List.replicate k 92 ++ c :: makeUnquoteGo 0 false r

def makeUnquote (q : Bytes) : Bytes := makeUnquoteGo 0 false q

theorem unq_replicate (m : Nat) : ∀ (k : Nat) (rest : Bytes),
    makeUnquoteGo k false (List.replicate m 92 ++ rest) = makeUnquoteGo (k + m) false rest := by
  induction m with
  | zero => intro k rest; rfl
  | succ m ih =>
    intro k rest
    simp only [List.replicate_succ, List.cons_append, makeUnquoteGo, Bool.false_and, Bool.false_eq_true, if_false,
      beq_self_eq_true, if_true, ih]
    congr 1
    omega

theorem makeQuoteGo_plain (t : Bytes) (bs : Nat) (h : ∀ c ∈ t, c ≠ 32 ∧ c ≠ 9 ∧ c ≠ 36 ∧ c ≠ 35) : makeQuoteGo bs t = t := by
  induction t generalizing bs with
  | nil => rfl
  | cons c r ih =>
    obtain ⟨hc, hr⟩ := List.forall_mem_cons.1 h
    simp [makeQuoteGo, hc, ih _ hr]

/-- `k` = the backslashes that stand right before the position, written and not yet read back. -/
theorem unquote_quote (t : Bytes) : ∀ k, makeUnquoteGo k false (makeQuoteGo k t) = List.replicate k 92 ++ t := by
  induction t with
  | nil => intro k; simp [makeQuoteGo, makeUnquoteGo]
  | cons c r ih =>
    intro k
    by_cases h92 : c = 92
    · -- a backslash is written as it is; both sides count it
      subst h92
      simp [makeQuoteGo, makeUnquoteGo, ih, List.replicate_succ']
    by_cases hws : c = 32 ∨ c = 9
    · -- white space gets k + 1 backslashes in front; Make, having k pending, reads the 2k + 1 back as k
      have ws := unq_replicate (k + 1) k
      rcases hws with rfl | rfl <;> simp [makeQuoteGo, makeUnquoteGo, ih, ws] <;> omega
    by_cases h36 : c = 36
    · -- `$` is doubled; Make emits the pending backslashes and reads `$$` as `$`
      subst h36
      simp [makeQuoteGo, makeUnquoteGo, ih]
    by_cases h35 : c = 35
    · -- `#` gets one backslash, which Make drops from the pending ones
      subst h35
      simp [makeQuoteGo, makeUnquoteGo, ih]
    -- any other byte is written as it is and read after the pending backslashes
    simp [makeQuoteGo, makeUnquoteGo, *]

/-- C01 `dependency_target_reads_back` (valid UTF-8 paths are the ones that get quoted) -/
theorem makeUnquote_makeQuote (t : Bytes) (h : RArgsM.validUtf8 t = true) : makeUnquote (makeQuote t) = t := by
  simpa [makeUnquote, makeQuote, h] using unquote_quote t 0
end ArgsM
