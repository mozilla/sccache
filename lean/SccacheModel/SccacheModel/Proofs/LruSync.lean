import SccacheModel.Proofs.Lru

namespace LruM
namespace Lru

/-! C07, second half (`index_eq_disk`): the index equals the set of entry files with their sizes (no indexed entry without a file,
    no entry file that is not indexed). Every operation is followed through `SyncX`, the agreement up to files not yet indexed.
    External deletions are interference from outside and are excluded (`NoExt`). -/

def KeysNodup (l : List (Key × Nat)) : Prop := (l.map (·.1)).Nodup

/-- index and directory agree: same (key, size) pairs, keys unique -/
structure Sync (c : Lru) : Prop where
  perm : c.entries.Perm c.files
  nodup : KeysNodup c.entries

theorem keysNodup_perm {a b : List (Key × Nat)} (p : a.Perm b) (h : KeysNodup a) : KeysNodup b :=
  ((p.map (fun x : Key × Nat => x.1)).nodup_iff).mp h

theorem eraseKey_perm {a b : List (Key × Nat)} (p : a.Perm b) (k : Key) : (eraseKey a k).Perm (eraseKey b k) :=
  List.Perm.filter _ p

theorem eraseKey_of_not_mem (l : List (Key × Nat)) (k : Key) (h : k ∉ l.map (·.1)) : eraseKey l k = l :=
  List.filter_eq_self.mpr fun x hx => by simpa using fun e => h (List.mem_map.mpr ⟨x, hx, e⟩)

theorem not_mem_keys_eraseKey (l : List (Key × Nat)) (k : Key) : k ∉ (eraseKey l k).map (·.1) := by
  intro h
  obtain ⟨x, hx, rfl⟩ := List.mem_map.mp h
  simpa using (List.mem_filter.mp hx).2

theorem keysNodup_eraseKey (l : List (Key × Nat)) (k : Key) (h : KeysNodup l) : KeysNodup (eraseKey l k) :=
  List.Nodup.sublist (List.filter_sublist.map _) h

theorem keysNodup_replace (l : List (Key × Nat)) (k : Key) (n : Nat) (h : KeysNodup l) : KeysNodup (eraseKey l k ++ [(k, n)]) :=
  keysNodup_perm (List.perm_append_singleton _ _).symm
    (List.nodup_cons.mpr ⟨not_mem_keys_eraseKey _ k, keysNodup_eraseKey _ k h⟩)

theorem eraseKey_perm_cons {l r : List (Key × Nat)} {k : Key} {n : Nat} (h : KeysNodup l) (p : l.Perm ((k, n) :: r)) :
    k ∉ r.map (·.1) ∧ (eraseKey l k).Perm r := by
  have hk := (List.nodup_cons.mp (keysNodup_perm p h)).1
  have := eraseKey_perm p k
  rw [eraseKey, eraseKey, List.filter_cons_of_neg (by simp), ← eraseKey, ← eraseKey, eraseKey_of_not_mem r k hk] at this
  exact ⟨hk, this⟩

theorem move_perm {es : List (Key × Nat)} {k : Key} {e : Key × Nat} (hn : KeysNodup es) (he : es.find? (·.1 == k) = some e) :
    (eraseKey es k ++ [e]).Perm es := by
  obtain ⟨k', n⟩ := e
  obtain rfl : k' = k := by simpa using List.find?_some he
  have p := List.perm_cons_erase (List.mem_of_find?_eq_some he)
  exact ((eraseKey_perm_cons hn p).2.append_right _).trans ((List.perm_append_singleton _ _).trans p.symm)

/-- the index `E`, followed by the files `x` that exist but are not (yet) indexed, lists the directory `F`, each key once -/
structure SyncX (x E F : List (Key × Nat)) : Prop where
  perm : (E ++ x).Perm F
  nodup : KeysNodup F

theorem Sync.toX {c : Lru} (h : Sync c) : SyncX [] c.entries c.files :=
  ⟨(List.append_nil c.entries).symm ▸ h.perm, keysNodup_perm h.perm h.nodup⟩

theorem SyncX.toSync {c : Lru} (h : SyncX [] c.entries c.files) : Sync c :=
  have p : c.entries.Perm c.files := List.append_nil c.entries ▸ h.perm
  ⟨p, keysNodup_perm p.symm h.nodup⟩

theorem Sync.replace {c : Lru} (h : Sync c) (k : Key) (n : Nat) :
    SyncX [(k, n)] (eraseKey c.entries k) (eraseKey c.files k ++ [(k, n)]) :=
  ⟨(eraseKey_perm h.perm k).append_right _, keysNodup_replace _ k n h.toX.nodup⟩

theorem SyncX.unfile {x E F : List (Key × Nat)} {k n : Nat} (h : SyncX ((k, n) :: x) E F) : SyncX x E (eraseKey F k) :=
  ⟨(eraseKey_perm_cons h.nodup (h.perm.symm.trans List.perm_middle)).2.symm, keysNodup_eraseKey _ k h.nodup⟩

theorem SyncX.index {x E F : List (Key × Nat)} {k n : Nat} (h : SyncX ((k, n) :: x) E F) :
    SyncX x (eraseKey E k ++ [(k, n)]) F := by
  have hk := (eraseKey_perm_cons h.nodup (h.perm.symm.trans List.perm_middle)).1
  rw [List.map_append, List.mem_append, not_or] at hk
  refine ⟨?_, h.nodup⟩
  rw [eraseKey_of_not_mem _ k hk.1, List.append_assoc]
  exact h.perm

theorem SyncX.pop {x rest F : List (Key × Nat)} {k sz : Nat} (h : SyncX x ((k, sz) :: rest) F) : SyncX x rest (eraseKey F k) :=
  ⟨(eraseKey_perm_cons h.nodup h.perm.symm).2.symm, keysNodup_eraseKey _ k h.nodup⟩

theorem SyncX.evict {x : List (Key × Nat)} {c : Lru} (h : SyncX x c.entries c.files) (m : Nat) :
    SyncX x (c.evict m).entries (c.evict m).files := by
  induction m generalizing c with
  | zero => exact h
  | succ m ih =>
    cases he : c.entries with
    | nil => simpa only [Lru.evict, he, List.drop_nil, List.take_nil, List.foldl_nil] using h
    | cons e rest => rw [evict_succ he]; exact ih (he ▸ h).pop

theorem Sync.evict {c : Lru} (h : Sync c) (m : Nat) : Sync (c.evict m) := (h.toX.evict m).toSync

theorem sync_insert (c : Lru) (k : Key) (n : Nat) (hs : Sync c) (hfit : c.lruSize + n ≤ c.cap) :
    Sync { c.lruInsert k n with files := eraseKey c.files k ++ [(k, n)] } := by
  rw [lruInsert_eq c k n hfit]
  exact ⟨(hs.replace k n).perm, keysNodup_replace _ k n hs.nodup⟩

theorem prepareAdd_sync (c : Lru) (k : Key) (n : Nat) (hs : Sync c) : Sync (c.prepareAdd k n).1 := by
  unfold prepareAdd
  obtain ⟨m, ⟨e, _⟩ | ⟨e, _⟩⟩ := makeSpace_eq c n <;> simp only [e]
  · exact ⟨(hs.evict m).perm, (hs.evict m).nodup⟩
  · exact hs.evict m

theorem insertBytes_sync (c : Lru) (k : Key) (n : Nat) (hs : Sync c) : Sync (c.insertBytes k n).1 := by
  unfold insertBytes
  split
  · exact hs
  · -- after writing the file and dropping the stale index entry: in agreement up to the new file
    have hx := fun m => SyncX.evict (c := { c with files := eraseKey c.files k ++ [(k, n)], entries := eraseKey c.entries k })
      (hs.replace k n) m
    obtain ⟨m, ⟨e, _⟩ | ⟨e, _⟩⟩ := addFile_eq { c with files := eraseKey c.files k ++ [(k, n)], entries := eraseKey c.entries k } k n
      <;> simp only [e]
    · exact (hx m).index.toSync
    · exact (hx m).unfile.toSync

theorem commit_sync (c : Lru) (h : Nat) (hF : Fits c) (hs : Sync c) : Sync (c.commit h).1 := by
  obtain e | ⟨p, m, _, e | ⟨e, _⟩⟩ := commit_eq c h hF <;> rw [e]
  · exact hs
  · exact Sync.evict (c := c.dropEntry h) ⟨hs.perm, hs.nodup⟩ m
  · have h1 := (hs.evict m).replace p.key p.written
    exact ⟨h1.perm, keysNodup_replace _ _ _ (hs.evict m).nodup⟩

theorem get_sync (c : Lru) (k : Key) (hs : Sync c) : Sync (c.get k).1 := by
  cases he : c.entries.find? (·.1 == k) with
  | none => rw [get_none he]; exact hs
  | some e =>
    rw [get_some he]
    have p := move_perm hs.nodup he
    exact ⟨p.trans hs.perm, keysNodup_perm p.symm hs.nodup⟩

theorem remove_sync (c : Lru) (k : Key) (hs : Sync c) : Sync (c.remove k).1 := by
  have h : Sync { c with entries := eraseKey c.entries k, files := eraseKey c.files k } :=
    ⟨eraseKey_perm hs.perm k, keysNodup_eraseKey _ k hs.nodup⟩
  fun_cases remove c k
  next => exact h
  next hno =>
    -- no file of that key (cannot happen when index and directory agree): erasing it from the directory changes nothing
    have : eraseKey c.files k = c.files := eraseKey_of_not_mem _ k fun hm =>
      let ⟨x, hx, e⟩ := List.mem_map.mp hm
      hno (List.any_eq_true.mpr ⟨x, hx, beq_iff_eq.mpr e⟩)
    exact ⟨this ▸ h.perm, h.nodup⟩
  next => exact hs

/-- the start-up scan: files oldest first; every file ends up indexed or deleted -/
theorem reopen_sync (c : Lru) (order : List (Key × Nat)) (hnd : KeysNodup order) : Sync (c.reopen order) := by
  -- invariant of the fold: index ++ not-yet-scanned files = directory; nothing is reserved
  have key : ∀ (l : List (Key × Nat)) (acc : Lru), SyncX l acc.entries acc.files → acc.pendingSize = 0 →
      Sync (l.foldl scan acc) := by
    intro l
    induction l with
    | nil => exact fun acc h _ => h.toSync
    | cons kn l ih =>
      intro acc h hp
      obtain ⟨k, n⟩ := kn
      rw [List.foldl_cons]
      unfold scan
      split
      · exact ih _ h.unfile hp
      · obtain ⟨m, ⟨e, _⟩ | ⟨e, hbig⟩⟩ := addFile_eq acc k n <;> simp only [e]
        · exact ih _ (h.evict m).index hp
        · -- `make_space` cannot refuse here: nothing is reserved and the file fits the capacity
          omega
  exact key order _ ⟨List.Perm.refl _, hnd⟩ rfl

/-- operations of the cache itself and of its callers — everything except deletion of files by someone else -/
def NoExt : LOp → Prop
  | .externalDelete _ => False
  | _ => True

/-- the `order` handed to a reopen is what is on disk: the entry files, each once -/
def ReopenFaithful (c : Lru) : LOp → Prop
  | .reopen order => order.Perm c.files
  | _ => True

theorem lstep_sync (c : Lru) (o : LOp) (hF : Fits c) (hs : Sync c) (hne : NoExt o) (hro : ReopenFaithful c o) :
    Sync (lstep c o) := by
  cases o with
  | insertBytes k n => exact insertBytes_sync c k n hs
  | prepareAdd k n => exact prepareAdd_sync c k n hs
  | write h m => exact ⟨hs.perm, hs.nodup⟩
  | commit h => exact commit_sync c h hF hs
  | dropEntry h => exact ⟨hs.perm, hs.nodup⟩
  | get k => exact get_sync c k hs
  | remove k => exact remove_sync c k hs
  | externalDelete k => exact hne.elim
  | reopen order => exact reopen_sync c order (keysNodup_perm (hs.perm.trans (List.Perm.symm hro)) hs.nodup)

def GoodHistory : Lru → List LOp → Prop
  | _, [] => True
  | c, o :: os => NoExt o ∧ ReopenFaithful c o ∧ GoodHistory (lstep c o) os

/-- C07 `index_eq_disk`: after every history without foreign deletions, index and entry files are the same (key, size) pairs,
    each key once -/
theorem index_eq_disk (cap : Nat) (ops : List LOp) (h : GoodHistory { cap := cap } ops) :
    let c := ops.foldl lstep { cap := cap }
    c.entries.Perm c.files ∧ KeysNodup c.entries := by
  have : ∀ (ops : List LOp) (c : Lru), Fits c → Sync c → GoodHistory c ops → Sync (ops.foldl lstep c) := by
    intro ops
    induction ops with
    | nil => exact fun c _ hs _ => hs
    | cons o os ih => exact fun c hF hs hh => ih _ (lstep_fits c o hF) (lstep_sync c o hF hs hh.1 hh.2.1) hh.2.2
  have g := this ops { cap := cap } (fits_fresh cap [] 0) ⟨.refl _, List.nodup_nil⟩ h
  exact ⟨g.perm, g.nodup⟩

end Lru
end LruM
