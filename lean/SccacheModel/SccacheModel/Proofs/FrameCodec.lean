import SccacheModel.Model.Frame

/-! bincode round trip of `Request` (`decReq (encReq r ++ tail) = some r`): every `take…` reads back what its `enc…`/`u…`
    wrote in front of any `rest`; the lemmas are stated in that one shape so that each is proved by rewriting with
    the ones before it. -/
namespace FrameM

theorem leBytes_length (k n : Nat) : (leBytes k n).length = k := by
  induction k generalizing n with
  | zero => rfl
  | succ k ih => simp [leBytes, ih]

theorem leVal_leBytes (k n : Nat) : leVal (leBytes k n) = n % 256 ^ k := by
  induction k generalizing n with
  | zero => simp [leBytes, leVal, Nat.mod_one]
  | succ k ih => rw [leBytes, leVal, ih, Nat.pow_succ', Nat.mod_mul]

theorem takeN_append (s rest : Bytes) : takeN s.length (s ++ rest) = some (s, rest) := by
  simp [takeN]

theorem takeN_leBytes (k n : Nat) (h : n < 256 ^ k) (rest : Bytes) :
    (takeN k (leBytes k n ++ rest)).map (fun (x, r) => (leVal x, r)) = some (n, rest) := by
  have := takeN_append (leBytes k n) rest
  rw [leBytes_length] at this
  simp only [this, Option.map_some, leVal_leBytes, Nat.mod_eq_of_lt h]

theorem takeU32_u32 (n : Nat) (h : n < 256 ^ 4) (rest : Bytes) : takeU32 (u32 n ++ rest) = some (n, rest) :=
  takeN_leBytes 4 n h rest

theorem takeU64_u64 (n : Nat) (h : n < 256 ^ 8) (rest : Bytes) : takeU64 (u64 n ++ rest) = some (n, rest) :=
  takeN_leBytes 8 n h rest

def wfOs (s : Bytes) : Prop := s.length < 256 ^ 8

theorem takeOs_encOs (s : Bytes) (h : wfOs s) (rest : Bytes) : takeOs (encOs s ++ rest) = some (s, rest) := by
  simp only [takeOs, encOs, List.append_assoc, takeU32_u32 0 (by decide), takeU64_u64 _ h, takeN_append]

theorem encOs_length (s : Bytes) : (encOs s).length = 12 + s.length := by
  simp [encOs, u32, u64, leBytes_length]; omega

theorem takeOsN_enc (xs : List Bytes) (h : ∀ x ∈ xs, wfOs x) (rest : Bytes) :
    takeOsN xs.length ((xs.map encOs).flatten ++ rest) = some (xs, rest) := by
  induction xs with
  | nil => rfl
  | cons x xs ih =>
    simp only [List.forall_mem_cons] at h
    simp [takeOsN, takeOs_encOs x h.1, ih h.2]

theorem takePairN_enc (xs : List (Bytes × Bytes)) (h : ∀ x ∈ xs, wfOs x.1 ∧ wfOs x.2) (rest : Bytes) :
    takePairN xs.length ((xs.map fun x => encOs x.1 ++ encOs x.2).flatten ++ rest) = some (xs, rest) := by
  induction xs with
  | nil => rfl
  | cons x xs ih =>
    simp only [List.forall_mem_cons] at h
    simp [takePairN, takeOs_encOs x.1 h.1.1, takeOs_encOs x.2 h.1.2, ih h.2]

/-- the decoder's guard against absurd counts never refuses an honest encoding: every element takes at least one byte -/
theorem length_le_flatten (xs : List α) (f : α → Bytes) (hf : ∀ x, 1 ≤ (f x).length) (rest : Bytes) :
    xs.length ≤ ((xs.map f).flatten ++ rest).length := by
  induction xs with
  | nil => simp
  | cons x xs ih =>
    have := hf x
    simp only [List.map_cons, List.flatten_cons, List.length_cons, List.length_append] at ih ⊢
    omega

theorem takeOsList_enc (xs : List Bytes) (hl : xs.length < 256 ^ 8) (h : ∀ x ∈ xs, wfOs x) (rest : Bytes) :
    takeOsList (encList xs ++ rest) = some (xs, rest) := by
  simp only [takeOsList, encList, List.append_assoc, takeU64_u64 _ hl, takeOsN_enc xs h,
    if_pos (length_le_flatten xs encOs (fun x => by rw [encOs_length]; omega) rest)]

theorem takePairList_enc (xs : List (Bytes × Bytes)) (hl : xs.length < 256 ^ 8) (h : ∀ x ∈ xs, wfOs x.1 ∧ wfOs x.2) (rest : Bytes) :
    takePairList (encPairs xs ++ rest) = some (xs, rest) := by
  simp only [takePairList, encPairs, List.append_assoc, takeU64_u64 _ hl, takePairN_enc xs h,
    if_pos (length_le_flatten xs (fun x => encOs x.1 ++ encOs x.2) (fun x => by rw [List.length_append, encOs_length]; omega) rest)]

/-- what a request must satisfy to be encodable: every length fits the 64-bit length fields -/
def WfReq : Req → Prop
  | .compile exe cwd args env => wfOs exe ∧ wfOs cwd ∧ args.length < 256 ^ 8 ∧ (∀ x ∈ args, wfOs x) ∧ env.length < 256 ^ 8 ∧ (∀ x ∈ env, wfOs x.1 ∧ wfOs x.2)
  | _ => True

/-- C11 `request_round_trip`: what the client encodes is what the server decodes, whatever follows it in the frame -/
theorem decReq_encReq (r : Req) (h : WfReq r) (tail : Bytes) : decReq (encReq r ++ tail) = some r := by
  cases r with
  | compile exe cwd args env =>
    obtain ⟨h1, h2, h3, h4, h5, h6⟩ := h
    simp only [decReq, encReq, List.append_assoc, takeU32_u32 4 (by decide), takeOs_encOs exe h1, takeOs_encOs cwd h2,
      takeOsList_enc args h3 h4, takePairList_enc env h5 h6]
  | zeroStats => simp only [decReq, encReq, takeU32_u32 0 (by decide)]
  | getStats => simp only [decReq, encReq, takeU32_u32 1 (by decide)]
  | distStatus => simp only [decReq, encReq, takeU32_u32 2 (by decide)]
  | shutdown => simp only [decReq, encReq, takeU32_u32 3 (by decide)]
end FrameM
