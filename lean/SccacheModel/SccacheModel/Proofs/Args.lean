import SccacheModel.Model.Args

namespace ArgsM

/-! The classification loop of the gcc/clang `parse_arguments` loses, duplicates and moves no argument: each of the five
    argument lists of the result is, in order, what the arguments of its class contribute (C01 `regen_partition`, `hashed_covers`). -/

inductive Cls where | common | pre | dep | arch | unhashed | consumed
deriving Repr, DecidableEq

/-- the list an argument's strings are appended to by `parse_arguments` -/
def clsOf (a : Argument) : Cls :=
  match a.variant with
  | some .pedanticFlag | some .standard | some .diagnosticsColor | some .diagnosticsColorFlag
  | some .noDiagnosticsColorFlag | some .passThrough | some .passThroughFlag | some .passThroughPath
  | some .clangProfileUse | some .extraHashFile | some .splitDwarf | some .profileGenerate
  | some .testCoverage | some .coverage => .common
  | some .needDepTarget | some .depArgumentPath => .dep
  | some .arch => .arch
  | some .preprocessorArgument | some .preprocessorArgumentFlag | some .preprocessorArgumentPath => .pre
  | some .unhashed | some .unhashedFlag => .unhashed
  | some .tooHardFlag | some .tooHard | some .doCompilation | some .output | some .depTarget
  | some .serializeDiagnostics | some .language | some .xClang => .consumed
  | none => match a with
    | .raw _ => .consumed
    | _ => .common

def pick (c : Cls) (a : Argument) : List Bytes := if clsOf a = c then a.strings else []

abbrev Grows (st st' : St) (f : Cls → List Bytes) : Prop :=
  st'.common = st.common ++ f .common ∧ st'.pre = st.pre ++ f .pre ∧ st'.dep = st.dep ++ f .dep ∧
  st'.arch = st.arch ++ f .arch ∧ st'.unhashed = st.unhashed ++ f .unhashed

theorem classifyCore_step (m : Bool) (st st' : St) (a : Argument) (h : classifyCore m st a = .ok st') :
    Grows st st' (pick · a) := by
  revert h
  -- one case per arm of `classifyCore`: the arm's record update against the arm of `clsOf` for the same variant
  fun_cases classifyCore m st a <;> intro h <;> cases h <;> simp +zetaDelta [Grows, pick, clsOf, *]

theorem classify_step (m : Bool) (st st' : St) (a : Argument) (h : classify m st a = .ok st') :
    Grows st st' (pick · a) := by
  unfold classify at h
  split at h
  · cases h
  · exact classifyCore_step m st st' a h

theorem Grows.trans {s₀ s₁ s₂ : St} {f g : Cls → List Bytes} (h₁ : Grows s₀ s₁ f) (h₂ : Grows s₁ s₂ g) :
    Grows s₀ s₂ fun c => f c ++ g c := by
  simp_all [Grows]

theorem classifyAll_partition (m : Bool) : ∀ (args : List Argument) (st st' : St),
    classifyAll m st (args.map .ok) = .ok st' → Grows st st' fun c => args.flatMap (pick c)
  | [], st, _, h => by cases h; simp [Grows]
  | a :: as, st, st', h => by
    rw [List.map_cons, classifyAll] at h
    split at h
    next s₁ hs => exact (classify_step m st s₁ a hs).trans (classifyAll_partition m as s₁ st' h)
    next => cases h

theorem finish_ok (plusplus : Bool) (st : St) (p : Parsed) (h : finish plusplus st = .ok p) :
    ∃ input lang, p = finishWith st input lang := by
  revert h
  fun_cases finish plusplus st <;> intro h <;> cases h
  exact ⟨_, _, rfl⟩

/-- C01 `regen_partition`; the `extra`s are the synthesised items (the split-dwarf define, the explicit dependency target and
    file). The second loop, over the values of `-Xclang`, is not part of the statement: it adds `-Xclang …` strings of its own. -/
theorem regen_partition (plusplus m : Bool) (args : List Argument) (p : Parsed) (st : St)
    (hc : classifyAll m {} (args.map .ok) = .ok st) (hf : finish plusplus st = .ok p) :
    p.pre = args.flatMap (pick .pre) ∧ p.arch = args.flatMap (pick .arch) ∧ p.unhashed = args.flatMap (pick .unhashed) ∧
    (∃ extra, p.common = args.flatMap (pick .common) ++ extra) ∧ (∃ extra, p.dep = args.flatMap (pick .dep) ++ extra) := by
  obtain ⟨hcom, hpre, hdep, harch, hunh⟩ := classifyAll_partition m args {} st hc
  obtain ⟨input, lang, rfl⟩ := finish_ok plusplus st p hf
  simp only [finishWith, hcom, hpre, hdep, harch, hunh, List.nil_append, List.append_assoc, true_and]
  exact ⟨⟨_, rfl⟩, ⟨_, rfl⟩⟩

/-- C01 `hashed_covers`: every argument classified as common or arch is part of what `hash_key` is given
    (`common_args ++ arch_args`) -/
theorem hashed_covers (plusplus m : Bool) (args : List Argument) (p : Parsed) (st : St)
    (hc : classifyAll m {} (args.map .ok) = .ok st) (hf : finish plusplus st = .ok p)
    (a : Argument) (ha : a ∈ args) (hcls : clsOf a = .common ∨ clsOf a = .arch) :
    ∀ x ∈ a.strings, x ∈ p.common ++ p.arch := by
  obtain ⟨_, harch, _, ⟨e1, hcom⟩, _⟩ := regen_partition plusplus m args p st hc hf
  intro x hx
  rw [hcom, harch]
  have hm (c : Cls) (h : clsOf a = c) : x ∈ args.flatMap (pick c) := List.mem_flatMap.2 ⟨a, ha, by simp [pick, h, hx]⟩
  rcases hcls with h | h
  · exact List.mem_append_left _ (List.mem_append_left _ (hm _ h))
  · exact List.mem_append_right _ (hm _ h)

#print axioms regen_partition
#print axioms hashed_covers

end ArgsM
