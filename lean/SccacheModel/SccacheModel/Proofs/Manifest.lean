import SccacheModel.Model.Manifest

/-! C04 `manifest_hit_sound`: `result_matches` tests every recorded include on its own (`EntryHit`), and stat data are
    recorded only when they are older than the compile, so a stat hit on a file changed since then is impossible and a
    hit means recorded contents.  With the witnesses of F-C04-a and F-C04-b. -/
namespace ManifestM

/-- what a hit says about one recorded include: its file is there with the recorded size, and either its stat data
    are the recorded ones or its contents are, the time macros permitting -/
def EntryHit (cfg : Cfg) (fs : FS) (inc : Inc) : Prop :=
  ∃ f, fs inc.path = some f ∧ f.size = inc.size ∧
    (statHit cfg f inc = true ∨
      inc.digest = f.content ∧
        (cfg.ignoreTimeMacros = true ∨ f.hasTime = false ∧ f.hasDate = false ∧ (f.hasTimestamp = true → inc.mtime = some f.mtime)))

/-- of the tests `result_matches` makes on an include, a stat hit and `ignore_time_macros` choose how to go on; every other one
    fails the match or goes on with the rest -/
theorem resultMatches_cons_iff (cfg : Cfg) (fs : FS) (inc : Inc) (rest : List Inc) :
    resultMatches cfg fs (inc :: rest) = true ↔ EntryHit cfg fs inc ∧ resultMatches cfg fs rest = true := by
  simp only [resultMatches, EntryHit]
  cases fs inc.path with
  | none => simp
  | some f =>
    by_cases hst : statHit cfg f inc = true <;> by_cases hig : cfg.ignoreTimeMacros = true <;>
      simp [hst, hig, Decidable.imp_iff_not_or, and_assoc]

theorem resultMatches_iff (cfg : Cfg) (fs : FS) (incs : List Inc) :
    resultMatches cfg fs incs = true ↔ ∀ inc ∈ incs, EntryHit cfg fs inc := by
  induction incs with
  | nil => simp [resultMatches]
  | cons inc rest ih => rw [resultMatches_cons_iff, ih, List.forall_mem_cons]

theorem statHit_record (cfg : Cfg) (t0 p : Nat) (f0 f1 : FileSt) (h : statHit cfg f1 (record t0 p f0) = true) :
    f1.ctime = f0.ctime ∧ f0.ctime < t0 := by
  by_cases hok : t0 > max f0.mtime f0.ctime
  · simp only [statHit, record, hok, decide_true, if_true, Bool.and_eq_true, beq_iff_eq] at h
    exact ⟨h.2.2, by omega⟩
  · simp [statHit, record, hok] at h

/-- C04 `manifest_hit_sound`: a manifest hit implies that every recorded include still has its recorded contents -/
theorem manifest_hit_sound (cfg : Cfg) (t0 : Nat) (fs0 fs1 : FS)
    (hev : EvolvedSince t0 fs0 fs1)
    (incs : List Inc) (hrec : ∀ inc ∈ incs, ∃ f0, fs0 inc.path = some f0 ∧ inc = record t0 inc.path f0)
    (hm : resultMatches cfg fs1 incs = true) :
    ∀ inc ∈ incs, ∃ f1, fs1 inc.path = some f1 ∧ f1.content = inc.digest := by
  intro inc hi
  obtain ⟨f1, hf1, -, hit⟩ := (resultMatches_iff cfg fs1 incs).mp hm inc hi
  refine ⟨f1, hf1, ?_⟩
  rcases hit with hst | ⟨hd, -⟩
  · obtain ⟨f0, hf0, hinc⟩ := hrec inc hi
    rcases hev inc.path f1 hf1 with hsame | hnew
    · rw [hinc, Option.some.inj (hf0.symm.trans hsame)]; rfl
    · -- a stat hit on a file changed since `t0` is impossible: its ctime would be both ≥ t0 and the recorded one
      rw [hinc] at hst
      have := statHit_record cfg t0 _ f0 f1 hst
      omega
  · exact hd.symm

/-- C04 `time_macro_header_hit` (`__TIMESTAMP__` expands to the header's modification time) -/
theorem time_macro_header_hit (cfg : Cfg) (fs : FS) (inc : Inc) (rest : List Inc) (f : FileSt)
    (hf : fs inc.path = some f) (hcfg : cfg.ignoreTimeMacros = false) (hst : statHit cfg f inc = false)
    (hm : resultMatches cfg fs (inc :: rest) = true) :
    f.hasTime = false ∧ f.hasDate = false ∧ (f.hasTimestamp = true → inc.mtime = some f.mtime) := by
  obtain ⟨f', hf', -, hit⟩ := (resultMatches_iff cfg fs _).mp hm inc (List.mem_cons_self ..)
  cases hf.symm.trans hf'
  rcases hit with h | ⟨-, h | h⟩
  · exact absurd h (by simp [hst])
  · exact absurd h (by simp [hcfg])
  · exact h

/-- F-C04-a (fixed in /repo): with `ignore_time_macros`, an edit of the *second* header is now detected.
    On the pinned tree this evaluated to `true` (the loop returned after the first include). -/
theorem ignore_time_macros_second_header_detected :
    let cfg : Cfg := ⟨false, true, true⟩
    let fs1 : FS := fun p => if p = 0 then some ⟨10, 5, 1, 1, false, false, false⟩ else if p = 1 then some ⟨99, 5, 9, 9, false, false, false⟩ else none
    resultMatches cfg fs1 [⟨0, 10, 5, none, none⟩, ⟨1, 20, 5, none, none⟩] = false := by decide

/-- F-C04-b (fixed): before the fix a header containing `__DATE__` was never content-compared; now the same state misses -/
theorem date_header_witness :
    let cfg : Cfg := ⟨false, true, false⟩
    let fs1 : FS := fun p => if p = 0 then some ⟨77, 5, 1, 1, true, false, false⟩ else none
    resultMatchesBefore cfg fs1 [⟨0, 10, 5, none, none⟩] = true ∧ resultMatches cfg fs1 [⟨0, 10, 5, none, none⟩] = false := by decide

/-- … and a touched header that uses `__TIMESTAMP__` (same contents, new mtime) was a hit -/
theorem timestamp_header_witness :
    let cfg : Cfg := ⟨false, true, false⟩
    let fs1 : FS := fun p => if p = 0 then some ⟨10, 5, 9, 9, false, false, true⟩ else none
    resultMatchesBefore cfg fs1 [⟨0, 10, 5, some 1, some 1⟩] = true ∧ resultMatches cfg fs1 [⟨0, 10, 5, some 1, some 1⟩] = false := by decide

#print axioms manifest_hit_sound

end ManifestM
