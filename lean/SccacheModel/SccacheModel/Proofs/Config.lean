import SccacheModel.Model.Config

/-! The configuration model (`ConfigM`): which of environment and file decides each field of the disk cache configuration the
server ends up with.  The `_iff` lemmas say what the three stages return; the rest reads single fields off them. -/

namespace ConfigM

theorem envDisk_ok_iff (e : Env) (r : Option Disk) :
    envDisk e = .ok r ↔
      envSize e ≠ .overflow ∧ ∃ direct, boolFromEnv e.direct = .ok direct ∧ r = envDiskOf e (sizeOpt (envSize e)) direct := by
  unfold envDisk
  split
  · simp [*]
  · split <;> simp_all [eq_comm]

theorem envDisk_error (e : Env) (h : envDisk e = .error) : ∃ u, boolFromEnv e.direct = .error u := by
  unfold envDisk at h
  split at h
  · cases h
  · split at h
    · next u hu => exact ⟨u, hu⟩
    · cases h

theorem rw_ne : sReadWrite ≠ sReadOnly := by decide

theorem envRw_fst (v : Option Bytes) : (envRw v).1 = (if v = some sReadOnly then .readOnly else .readWrite) := by
  fun_cases envRw v <;> simp_all

theorem envRw_snd (v : Option Bytes) : (envRw v).2 = true ↔ (v = some sReadOnly ∨ v = some sReadWrite) := by
  fun_cases envRw v <;> simp_all

theorem envDiskOf_eq_some (e : Env) (sz : Option Nat) (direct : Option Bool) (d : Disk) (h : envDiskOf e sz direct = some d) :
    d = ⟨e.dir, sz.getD tenGigs, ppOf direct, (envRw e.rw).1⟩ := by
  unfold envDiskOf at h
  split at h <;> cases h
  rfl

theorem envDiskOf_eq_none_iff (e : Env) (sz : Option Nat) (direct : Option Bool) :
    envDiskOf e sz direct = none ↔
      e.dir = none ∧ sz = none ∧ direct = none ∧ ¬ (e.rw = some sReadOnly ∨ e.rw = some sReadWrite) := by
  simp [envDiskOf, ← envRw_snd, and_assoc]

theorem load_ok_iff (e : Env) (f : Option FileDisk) (d : Disk) :
    load e f = .ok d ↔ ∃ r, envDisk e = .ok r ∧ d = r.getD ((f.map fileDisk).getD Disk.dflt) := by
  unfold load
  split <;> simp [*, eq_comm]

theorem env_rw_effective (e : Env) (f : Option FileDisk) (d : Disk) (hl : load e f = .ok d)
    (hr : e.rw = some sReadOnly ∨ e.rw = some sReadWrite) :
    d.rw = (if e.rw = some sReadOnly then .readOnly else .readWrite) := by
  obtain ⟨r, he, rfl⟩ := (load_ok_iff e f d).mp hl
  obtain ⟨-, direct, -, rfl⟩ := (envDisk_ok_iff e r).mp he
  -- `hr` alone makes the section exist
  cases hd : envDiskOf e (sizeOpt (envSize e)) direct with
  | none => exact absurd hr ((envDiskOf_eq_none_iff ..).mp hd).2.2.2
  | some d' => rw [envDiskOf_eq_some _ _ _ _ hd]; exact envRw_fst e.rw

theorem envDisk_pp (e : Env) (d : Disk) (h : envDisk e = .ok (some d)) :
    ∃ direct, boolFromEnv e.direct = .ok direct ∧ d.pp = { PP.activated with use := direct.getD true } := by
  obtain ⟨-, direct, hd, hr⟩ := (envDisk_ok_iff e _).mp h
  refine ⟨direct, hd, ?_⟩
  rw [envDiskOf_eq_some _ _ _ _ hr.symm]
  cases direct <;> rfl

theorem envDisk_none_iff (e : Env) :
    envDisk e = .ok none ↔
      (e.dir = none ∧ sizeOpt (envSize e) = none ∧ envSize e ≠ .overflow ∧ boolFromEnv e.direct = .ok none ∧
       ¬ (e.rw = some sReadOnly ∨ e.rw = some sReadWrite)) := by
  simp only [envDisk_ok_iff, eq_comm (a := none), envDiskOf_eq_none_iff]
  constructor
  · rintro ⟨h3, direct, h4, h1, h2, rfl, h5⟩; exact ⟨h1, h2, h3, h4, h5⟩
  · rintro ⟨h1, h2, h3, h4, h5⟩; exact ⟨h3, none, h4, h1, h2, rfl, h5⟩

/-- the suffix letters of `parse_size` lie above the digits -/
theorem suffix_gt_digits : ∀ x ∈ GenC.sizeSuffixes, (57 : UInt8) < x.1 := by decide

theorem parseSize_plain (ds : Bytes) (hne : ds ≠ []) (hd : ds.all isDigit = true) (hv : digitsVal ds 0 ≤ u64Max) :
    parseSize ds = .some (digitsVal ds 0) := by
  have hdig : ∀ b ∈ ds, 48 ≤ b ∧ b ≤ 57 := by
    simpa only [List.all_eq_true, isDigit, Bool.and_eq_true, decide_eq_true_iff] using hd
  -- the last byte is a digit, so no suffix letter: no multiplier
  have hlast : multiplierOf ds = 1 := by
    unfold multiplierOf
    split
    · next c hl =>
      have hc := (hdig c (List.mem_of_getLast? hl)).2
      rw [List.find?_eq_none.mpr fun x hx e => by
        rw [beq_iff_eq] at e; exact absurd (e ▸ hc) (UInt8.not_le.mpr (suffix_gt_digits x hx))]
      rfl
    · rfl
  -- the first byte is a digit, so not `+`
  have hplus : stripPlus ds = ds := by
    unfold stripPlus
    split
    · exact absurd (hdig 43 (by simp)).1 (by decide)
    · rfl
  simp [parseSize, u64FromStr, hlast, hplus, hne, hd, hv]

end ConfigM
