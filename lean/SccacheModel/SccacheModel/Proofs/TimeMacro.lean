import SccacheModel.Model.TimeMacro
import SccacheModel.Gen.Consts

namespace TM

/-! `finder_sound`: the finder carries a window of what it has read (`Finder.carry`), long enough that an occurrence
    reaching into the next read lies in the window followed by that read; every step searches that. -/

/-- the literals of `Model/TimeMacro.lean` are what `find_macros` searches for **in the current source** (`Gen/Consts.lean` is regenerated from
    util.rs on every run; a changed pattern or haystack length makes this theorem, and everything importing it, fail) -/
theorem patterns_match_source :
    patTimestamp = GenC.patTimestamp ∧ patTime = GenC.patTime ∧ patDate = GenC.patDate ∧ maxHay = GenC.maxHaystackLen :=
  ⟨rfl, rfl, rfl, rfl⟩

theorem hasInfix_iff (p s : Bytes) : hasInfix p s = true ↔ p <:+: s := by
  induction s with
  | nil => simp [hasInfix]
  | cons b bs ih => simp [hasInfix, ih, List.infix_cons_iff]

/-- two pieces of a text that overlap in `m` hold every occurrence of a pattern at most one byte longer than `m`: an occurrence
    in neither piece would have a byte on each side of `m` -/
theorem infix_overlap {p x m y : Bytes} (hp : p.length ≤ m.length + 1) (h : p <:+: x ++ m ++ y) : p <:+: x ++ m ∨ p <:+: m ++ y := by
  obtain ⟨a, b, hab⟩ := h
  have hl := congrArg List.length hab
  simp only [List.length_append] at hl
  by_cases hb : y.length ≤ b.length
  · obtain ⟨t, ht⟩ : a ++ p <+: x ++ m :=
      List.prefix_of_prefix_length_le (hab ▸ List.prefix_append _ _) (List.prefix_append _ _) (by simp; omega)
    exact .inl ⟨a, t, ht⟩
  · obtain ⟨a', rfl⟩ : x <+: a :=
      List.prefix_of_prefix_length_le (l₃ := x ++ m ++ y) (by simp) (hab ▸ by simp) (by omega)
    exact .inr ⟨a', b, by simpa using hab⟩

/-- keeping `w` of what was read is enough: a pattern that occurs once `c` is read occurs in `s` already or in `w ++ c` -/
def Covers (w s : Bytes) : Prop := ∀ p c : Bytes, p.length ≤ maxHay → p <:+: s ++ c → p <:+: s ∨ p <:+: w ++ c

theorem Covers.append {w s : Bytes} (hw : Covers w s) (c : Bytes) : Covers (w ++ c) (s ++ c) := fun p d hp h => by
  rw [List.append_assoc] at h ⊢
  exact (hw p _ hp h).imp_left (List.infix_append_of_infix_left ·)

theorem covers_lastN (s c : Bytes) (h : maxHay ≤ c.length) : Covers (lastN maxHay c) (s ++ c) := fun p d hp hi => by
  have : s ++ c = s ++ c.take (c.length - maxHay) ++ lastN maxHay c := by simp [lastN]
  rw [this] at hi ⊢
  exact infix_overlap (by simp [lastN]; omega) hi

def pat : Fin 3 → Bytes
  | 0 => patTimestamp | 1 => patTime | 2 => patDate
def flag : Fin 3 → Finder → Bool
  | 0, f => f.foundTimestamp | 1, f => f.foundTime | 2, f => f.foundDate

theorem pat_len : ∀ i : Fin 3, (pat i).length ≤ maxHay
  | 0 => by decide
  | 1 => by decide
  | 2 => by decide

theorem flag_congr {f g : Finder} (h1 : g.foundTimestamp = f.foundTimestamp) (h2 : g.foundTime = f.foundTime) (h3 : g.foundDate = f.foundDate) :
    ∀ i : Fin 3, flag i g = flag i f
  | 0 => h1
  | 1 => h2
  | 2 => h3

theorem flag_search (i : Fin 3) (f : Finder) (bufs : List Bytes) :
    flag i (f.search bufs) = (flag i f || bufs.any (hasInfix (pat i))) := by
  unfold Finder.search
  induction bufs generalizing f with
  | nil => simp
  | cons b bs ih =>
    have : flag i (f.findMacros b) = (flag i f || hasInfix (pat i) b) := by
      match i with
      | 0 | 1 | 2 => rfl
    simp [ih, this, Bool.or_assoc]

/-- what the finder puts before the next read -/
def Finder.carry (f : Finder) : Bytes :=
  if f.psr.isEmpty then (if f.fullChunks = 0 then [] else f.left) else f.psr

structure FInv (f : Finder) (seen : Bytes) : Prop where
  window : Covers f.carry seen
  found : ∀ i : Fin 3, pat i <:+: seen → flag i f = true

/-- the shape of every step: it searches `bufs`, which hold the carry followed by the new read `c`, in one piece or in
    overlapping ones -/
theorem FInv.of_search {f g : Finder} {seen c : Bytes} (h : FInv f seen) (bufs : List Bytes)
    (hflag : ∀ i, flag i g = flag i (f.search bufs))
    (hbufs : ∀ p : Bytes, p.length ≤ maxHay → p <:+: f.carry ++ c → ∃ b ∈ bufs, p <:+: b)
    (hwin : Covers g.carry (seen ++ c)) : FInv g (seen ++ c) := by
  refine ⟨hwin, fun i hi => ?_⟩
  rw [hflag, flag_search]
  rcases h.window _ c (pat_len i) hi with h1 | h2
  · simp [h.found i h1]
  · obtain ⟨b, hb, hi⟩ := hbufs _ (pat_len i) h2
    simp [List.any_eq_true.mpr ⟨b, hb, (hasInfix_iff _ _).mpr hi⟩]

/-- `hc` is used only to see that the new `previous_small_read` is not empty, so that it, and not `left`, is the carry -/
theorem inv_step (f : Finder) (seen c : Bytes) (hc : c ≠ []) (h : FInv f seen) : FInv (f.step c) (seen ++ c) := by
  have hw := h.window
  unfold Finder.step
  split
  next h0 =>
    have hcar : f.carry = f.psr := by
      simp only [Finder.carry]; split <;> simp_all
    split
    next =>
      refine h.of_search [f.psr ++ c] (flag_congr rfl rfl rfl) (fun p _ hp => ⟨_, by simp, hcar ▸ hp⟩) ?_
      simpa [Finder.carry, hc] using hcar ▸ hw.append c
    next hs =>
      refine h.of_search _ (flag_congr rfl rfl rfl) (fun p _ hp => ?_) ?_
      · rw [hcar] at hp
        by_cases he : f.psr.isEmpty
        · exact ⟨c, by simp, by simpa [List.isEmpty_iff.mp he] using hp⟩
        · exact ⟨f.psr ++ c, by simp [he], hp⟩
      · simpa [Finder.carry] using covers_lastN seen c (by omega)
  next h0 =>
    have hcar : (if f.psr.isEmpty then f.left ++ c else f.psr ++ c) = f.carry ++ c := by
      simp only [Finder.carry]; split <;> rfl
    split
    next =>
      rw [hcar]
      refine h.of_search _ (flag_congr rfl rfl rfl) (fun p _ hp => ⟨_, List.mem_cons_self .., hp⟩) ?_
      simpa [Finder.carry, hc] using hw.append c
    next hs =>
      refine h.of_search _ (flag_congr rfl rfl rfl) (fun p hpl hp => ?_) ?_
      · rw [← hcar] at hp
        by_cases he : f.psr.isEmpty
        · -- `left ++ c` is searched in two pieces that overlap in the first bytes of `c`
          rw [if_pos he, ← List.take_append_drop maxHay c, ← List.append_assoc] at hp
          rcases infix_overlap (by simp; omega) hp with h1 | h2
          · exact ⟨_, by simp, h1⟩
          · exact ⟨c, by simp, by simpa using h2⟩
        · exact ⟨f.psr ++ c, by simp [he], by simpa [he] using hp⟩
      · simpa [Finder.carry] using covers_lastN seen c (by omega)

theorem inv_init : FInv {} [] :=
  ⟨fun _ _ _ h => .inr h, fun i h => absurd (List.eq_nil_of_infix_nil h) (by match i with | 0 | 1 | 2 => decide)⟩

theorem inv_run (chunks : List Bytes) (hne : ∀ c ∈ chunks, c ≠ []) :
    ∀ (f : Finder) (seen : Bytes), FInv f seen → FInv (chunks.foldl Finder.step f) (seen ++ chunks.flatten) := by
  induction chunks with
  | nil => intro f seen h; simpa using h
  | cons c cs ih =>
    intro f seen h
    have := ih (fun x hx => hne x (by simp [hx])) (f.step c) (seen ++ c) (inv_step f seen c (hne c (by simp)) h)
    simpa using this

theorem finder_found (chunks : List Bytes) (hne : ∀ c ∈ chunks, c ≠ []) (i : Fin 3) (h : pat i <:+: chunks.flatten) :
    flag i (Finder.run chunks) = true := by
  have := inv_run chunks hne {} [] inv_init
  exact this.found i h

/-- C04 `finder_sound`: no split of the bytes into non-empty reads hides a time macro -/
theorem finder_sound (chunks : List Bytes) (hne : ∀ c ∈ chunks, c ≠ []) (i : Fin 3)
    (h : hasInfix (pat i) chunks.flatten = true) : flag i (Finder.run chunks) = true :=
  finder_found chunks hne i ((hasInfix_iff _ _).mp h)

#print axioms finder_sound

end TM
