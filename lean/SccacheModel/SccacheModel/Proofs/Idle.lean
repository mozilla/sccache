import SccacheModel.Model.Idle

/-! The inactivity timer (C20): `IInv` holds after every sequence of events: while the server runs, the armed
    deadline is `last + T`; once it has exited by inactivity, that happened no earlier than `last + T`, and `T ≠ 0`. -/
namespace IdleM

structure IInv (s : Srv) : Prop where
  armed : s.exited = none → s.deadline = arm s.T s.last
  late : ∀ t, s.exited = some t → s.last + s.T ≤ t ∧ s.T ≠ 0

theorem arm_some {T t d : Nat} (h : arm T t = some d) : T ≠ 0 ∧ d = t + T := by
  unfold arm at h; split at h <;> simp_all

theorem inv_init (T t0 : Nat) : IInv (init T t0) := ⟨fun _ => rfl, nofun⟩

theorem inv_step (s : Srv) (h : IInv s) (e : Ev) : IInv (step s e) := by
  cases hx : s.exited with
  | some x => cases e <;> simp only [step, hx] <;> exact h
  | none =>
    cases e with
    | request t => exact ⟨fun _ => by simp [step, hx], by simp [step, hx]⟩
    | poll t =>
      simp only [step, hx, Option.isSome_none, Bool.false_eq_true, if_false]
      split
      next d hd =>
        split
        next hle =>
          -- the armed deadline `d = last + T` has passed
          refine ⟨nofun, fun t' ht => ?_⟩
          cases ht
          obtain ⟨hT, rfl⟩ := arm_some (hd ▸ h.armed hx).symm
          exact ⟨hle, hT⟩
        next => exact h
      next => exact h

theorem inv_run (evs : List Ev) (s : Srv) (h : IInv s) : IInv (run s evs) :=
  List.foldlRecOn evs _ h fun s h e _ => inv_step s h e

theorem step_T (s : Srv) (e : Ev) : (step s e).T = s.T := by
  cases e <;> simp only [step] <;> (repeat' split) <;> rfl

theorem run_T (evs : List Ev) (s : Srv) : (run s evs).T = s.T :=
  List.foldlRecOn (motive := fun x : Srv => x.T = s.T) evs _ rfl fun _ h e _ => (step_T _ e).trans h

end IdleM
