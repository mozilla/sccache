import SccacheModel.Model.Dist

/-! C13: the corrected exit-status mapping round-trips and the pinned one turns exit code 1 into "killed by signal 1";
    a failed distributed compile is reported as an error only for an HTTP 4xx or an oversized toolchain, and otherwise
    falls back to the local compiler. -/
namespace DistM

theorem exit_status_roundtrip_fixed (c : Nat) (h : c < 256) : codeOfRaw (ofRemoteFixed c) = some c := by
  simp [codeOfRaw, ofRemoteFixed]; omega

theorem exit_status_pinned_witness : codeOfRaw (ofRemotePinned 1) = none ∧ signalOfRaw (ofRemotePinned 1) = some 1 := by decide

theorem fallback_total (d c : Bool) (f : Option (Stage × ErrClass)) :
    distDecide d c f = .error → ∃ st e, f = some (st, e) ∧ (e = .http4xx ∨ e = .toolchainTooLarge) := by
  fun_cases distDecide d c f with
  -- the two rows that report an error
  | case3 _ st => exact fun _ => ⟨st, _, rfl, .inl rfl⟩
  | case4 _ st => exact fun _ => ⟨st, _, rfl, .inr rfl⟩
  | _ => simp

end DistM
