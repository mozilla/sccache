/-! General facts, about variables only, that the models of the argument parsers and of the rustc key share: a linear
    sortedness check, sorting by a total order, and orders on pairs. -/

/-- neighbours are related by `r`: a check linear in the list (`SearchableArgInfo::check` of `args.rs` is this, with `<` on the flags) -/
def chainB {α} (r : α → α → Bool) : List α → Bool
  | a :: b :: l => r a b && chainB r (b :: l)
  | _ => true

theorem pairwise_of_chainB {α} {r : α → α → Bool} (tr : ∀ a b c, r a b → r b c → r a c) :
    ∀ l, chainB r l = true → l.Pairwise (r · ·)
  | [], _ => .nil
  | [_], _ => List.pairwise_singleton ..
  | a :: b :: l, h => by
    simp only [chainB, Bool.and_eq_true] at h
    have ih := pairwise_of_chainB tr (b :: l) h.2
    refine List.pairwise_cons.2 ⟨fun c hc => ?_, ih⟩
    rcases List.mem_cons.1 hc with rfl | hc
    · exact h.1
    · exact tr a b c h.1 (List.rel_of_pairwise_cons ih hc)

theorem mergeSort_eq_of_perm {α : Type} (le : α → α → Bool) (total : ∀ a b, (le a b || le b a) = true)
    (antisymm : ∀ a b, le a b = true → le b a = true → a = b) (trans : ∀ a b c, le a b = true → le b c = true → le a c = true)
    {l1 l2 : List α} (h : l1.Perm l2) : l1.mergeSort le = l2.mergeSort le :=
  List.Perm.eq_of_pairwise (le := fun a b => le a b = true) (fun a b _ _ => antisymm a b)
    (List.pairwise_mergeSort trans total l1) (List.pairwise_mergeSort trans total l2)
    ((List.mergeSort_perm l1 le).trans (h.trans (List.mergeSort_perm l2 le).symm))

/-! "compare the first components; if they are equal, the second": `le` has this shape over `le₁` (only consulted on different
    first components, so it may be strict) and `le₂`. The laws are stated at given points, so that a lexicographic order on lists
    gets them by induction, a list being its head and its tail. -/
section LexPair
variable {α β : Type} [BEq α] [LawfulBEq α] {le : α × β → α × β → Bool} {le₁ : α → α → Bool} {le₂ : β → β → Bool}
  (hle : ∀ a b, le a b = if a.1 == b.1 then le₂ a.2 b.2 else le₁ a.1 b.1)
include hle

theorem lexPair_total (a b : α × β) (t₁ : a.1 ≠ b.1 → (le₁ a.1 b.1 || le₁ b.1 a.1) = true)
    (t₂ : (le₂ a.2 b.2 || le₂ b.2 a.2) = true) : (le a b || le b a) = true := by
  rw [hle, hle]
  by_cases h : a.1 = b.1
  · simpa [h] using t₂
  · simpa [h, Ne.symm h] using t₁ h

theorem lexPair_antisymm (a b : α × β) (as₁ : le₁ a.1 b.1 = true → le₁ b.1 a.1 = true → a.1 = b.1)
    (as₂ : le₂ a.2 b.2 = true → le₂ b.2 a.2 = true → a.2 = b.2) (h1 : le a b = true) (h2 : le b a = true) : a = b := by
  rw [hle] at h1 h2
  by_cases h : a.1 = b.1
  · simp only [h, beq_self_eq_true] at h1 h2
    exact Prod.ext h (as₂ h1 h2)
  · simp only [beq_iff_eq, h, Ne.symm h] at h1 h2
    exact absurd (as₁ h1 h2) h

theorem lexPair_trans (a b c : α × β) (as₁ : le₁ a.1 b.1 = true → le₁ b.1 a.1 = true → a.1 = b.1)
    (tr₁ : le₁ a.1 b.1 = true → le₁ b.1 c.1 = true → le₁ a.1 c.1 = true)
    (tr₂ : le₂ a.2 b.2 = true → le₂ b.2 c.2 = true → le₂ a.2 c.2 = true)
    (h1 : le a b = true) (h2 : le b c = true) : le a c = true := by
  rw [hle] at h1 h2 ⊢
  by_cases hab : a.1 = b.1
  · by_cases hbc : b.1 = c.1
    · simp only [hab, hbc, beq_self_eq_true] at h1 h2 ⊢
      exact tr₂ h1 h2
    · simpa [hab, hbc] using h2
  · by_cases hbc : b.1 = c.1
    · simpa [← hbc, hab] using h1
    · simp only [beq_iff_eq, hab, hbc] at h1 h2
      have hac : a.1 ≠ c.1 := fun e => hab (as₁ h1 (e ▸ h2))
      simpa [hac] using tr₁ h1 h2
end LexPair
