import SccacheModel.Model.Shutdown

/-! Invariant of the running/draining/exited life of a server (`Model/Shutdown.lean`) over all timed event histories. -/
namespace ShutM

/-- `T` and `g` are the parameters the server started with; the ghost fields `drainAt`, `byStop`, `last` explain the phase. -/
structure Inv (T g : Nat) (s : Srv) : Prop where
  hT : s.T = T
  hg : s.grace = g
  phase : match s.phase with
    | .running d => s.drainAt = none ∧ d = arm T s.last ∧ s.last ≤ s.now ∧ ∀ dd, d = some dd → s.now < dd
    | .draining since => s.drainAt = some since ∧ s.conns ≠ [] ∧ since ≤ s.now ∧ s.now < since + g
    | .exited e => ∃ d, s.drainAt = some d ∧ d ≤ e ∧ e ≤ d + g ∧ (s.conns ≠ [] → e = d + g)
  cause : ∀ d, s.drainAt = some d → if s.byStop then d = s.last else T ≠ 0 ∧ d = s.last + T

theorem arm_some {T t d : Nat} (h : arm T t = some d) : T ≠ 0 ∧ d = t + T := by
  unfold arm at h; split at h <;> simp_all

theorem adv_run_none (s : Srv) (t : Nat) (hp : s.phase = .running none) : advance s t = { s with now := max s.now t } := by
  simp only [advance, fireIdle, fireGrace, hp]

theorem adv_run_later (s : Srv) (t d : Nat) (hp : s.phase = .running (some d)) (h : ¬ d ≤ max s.now t) :
    advance s t = { s with now := max s.now t } := by
  simp only [advance, fireIdle, fireGrace, hp, h, if_false]

theorem adv_run_exit (s : Srv) (t d : Nat) (hp : s.phase = .running (some d)) (h : d ≤ max s.now t) (hc : s.conns = []) :
    advance s t = { s with now := max s.now t, drainAt := some d, byStop := false, phase := .exited d } := by
  simp only [advance, fireIdle, fireGrace, enterDrain, hp, h, hc, if_true]

theorem adv_run_drain (s : Srv) (t d : Nat) (hp : s.phase = .running (some d)) (h : d ≤ max s.now t) (hc : s.conns ≠ [])
    (hgr : ¬ d + s.grace ≤ max s.now t) :
    advance s t = { s with now := max s.now t, drainAt := some d, byStop := false, phase := .draining d } := by
  simp only [advance, fireIdle, fireGrace, enterDrain, hp, h, hc, hgr, if_true, if_false]

theorem adv_run_drain_exit (s : Srv) (t d : Nat) (hp : s.phase = .running (some d)) (h : d ≤ max s.now t) (hc : s.conns ≠ [])
    (hgr : d + s.grace ≤ max s.now t) :
    advance s t = { s with now := max s.now t, drainAt := some d, byStop := false, phase := .exited (d + s.grace) } := by
  simp only [advance, fireIdle, fireGrace, enterDrain, hp, h, hc, hgr, if_true, if_false]

theorem adv_drain (s : Srv) (t d : Nat) (hp : s.phase = .draining d) (hgr : ¬ d + s.grace ≤ max s.now t) :
    advance s t = { s with now := max s.now t } := by
  simp only [advance, fireIdle, fireGrace, hp, hgr, if_false]

theorem adv_drain_exit (s : Srv) (t d : Nat) (hp : s.phase = .draining d) (hgr : d + s.grace ≤ max s.now t) :
    advance s t = { s with now := max s.now t, phase := .exited (d + s.grace) } := by
  simp only [advance, fireIdle, fireGrace, hp, hgr, if_true]

theorem adv_exited (s : Srv) (t e : Nat) (hp : s.phase = .exited e) : advance s t = { s with now := max s.now t } := by
  simp only [advance, fireIdle, fireGrace, hp]

theorem inv_init (T g : Nat) : Inv T g (init T g) :=
  ⟨rfl, rfl, ⟨rfl, rfl, Nat.le_refl _, fun dd h => by have := arm_some h; show 0 < dd; omega⟩, nofun⟩

/-- the timers that are due at `t` fire: the idle deadline `d` opens the drain at `d`, the grace period closes it at `d + g` -/
theorem advance_inv {T g : Nat} {s : Srv} (h : Inv T g s) (t : Nat) : Inv T g (advance s t) := by
  obtain ⟨hT, hg, hp, hc⟩ := h
  have hmax : s.now ≤ max s.now t := Nat.le_max_left _ _
  cases hph : s.phase with
  | running dl =>
    simp only [hph] at hp
    obtain ⟨h1, h2, h3, h4⟩ := hp
    cases dl with
    | none =>
      rw [adv_run_none s t hph]
      exact ⟨hT, hg, by simp only [hph]; exact ⟨h1, h2, Nat.le_trans h3 hmax, nofun⟩, hc⟩
    | some d =>
      have ha := arm_some h2.symm
      have idle : ∀ d', some d = some d' → if false then d' = s.last else T ≠ 0 ∧ d' = s.last + T := by
        intro d' e; cases e; exact ha
      by_cases hdt : d ≤ max s.now t
      · by_cases hcn : s.conns = []
        · rw [adv_run_exit s t d hph hdt hcn]
          exact ⟨hT, hg, ⟨d, rfl, Nat.le_refl _, Nat.le_add_right _ _, fun hne => absurd hcn hne⟩, idle⟩
        · by_cases hgr : d + s.grace ≤ max s.now t
          · rw [adv_run_drain_exit s t d hph hdt hcn hgr]
            exact ⟨hT, hg, ⟨d, rfl, Nat.le_add_right _ _, hg ▸ Nat.le_refl _, fun _ => hg ▸ rfl⟩, idle⟩
          · rw [adv_run_drain s t d hph hdt hcn hgr]
            exact ⟨hT, hg, ⟨rfl, hcn, hdt, by show max s.now t < d + g; omega⟩, idle⟩
      · rw [adv_run_later s t d hph hdt]
        exact ⟨hT, hg, by simp only [hph]; exact ⟨h1, h2, Nat.le_trans h3 hmax, fun dd e => by cases e; show max s.now t < d; omega⟩, hc⟩
  | draining since =>
    simp only [hph] at hp
    obtain ⟨h1, h2, h3, h4⟩ := hp
    by_cases hgr : since + s.grace ≤ max s.now t
    · rw [adv_drain_exit s t since hph hgr]
      exact ⟨hT, hg, ⟨since, h1, Nat.le_add_right _ _, hg ▸ Nat.le_refl _, fun _ => hg ▸ rfl⟩, hc⟩
    · rw [adv_drain s t since hph hgr]
      exact ⟨hT, hg, by simp only [hph]; exact ⟨h1, h2, Nat.le_trans h3 hmax, by show max s.now t < since + g; omega⟩, hc⟩
  | exited e =>
    rw [adv_exited s t e hph]
    exact ⟨hT, hg, by simpa only [hph] using hp, hc⟩

theorem act_inv {T g : Nat} {s : Srv} (hg0 : 0 < g) (h : Inv T g s) (e : Ev) : Inv T g (act s e).1 := by
  obtain ⟨hT, hg, hp, hc⟩ := h
  cases hph : s.phase with
  | exited x => cases e <;> simp only [act, hph] <;> exact ⟨hT, hg, hp, hc⟩
  | running dl =>
    have hp' := hp
    simp only [hph] at hp'
    cases e with
    | tick t => exact ⟨hT, hg, hp, hc⟩
    | connect t => simp only [act, hph]; exact ⟨hT, hg, hp', hc⟩
    | request t c =>
      simp only [act, hph]; split
      · refine ⟨hT, hg, ⟨hp'.1, hT ▸ rfl, Nat.le_refl _, fun dd e => ?_⟩, fun d e => ?_⟩
        · have := arm_some e; show s.now < dd; omega
        · rw [hp'.1] at e; cases e
      · exact ⟨hT, hg, hp, hc⟩
    | stop t c =>
      simp only [act, hph]; split
      next hin =>
        have hne : s.conns ≠ [] := List.ne_nil_of_mem hin
        simp only [enterDrain, hne]
        exact ⟨hT, hg, ⟨rfl, hne, Nat.le_refl _, by show s.now < s.now + g; omega⟩, fun d e => by cases e; rfl⟩
      next => exact ⟨hT, hg, hp, hc⟩
    | close t c =>
      simp only [act, hph]; split
      · exact ⟨hT, hg, hp', hc⟩
      · exact ⟨hT, hg, hp, hc⟩
  | draining since =>
    have hp' := hp
    simp only [hph] at hp'
    cases e with
    | tick t => exact ⟨hT, hg, hp, hc⟩
    | connect t => simp only [act, hph]; exact ⟨hT, hg, hp', hc⟩
    | request t c => simp only [act, hph]; split <;> exact ⟨hT, hg, hp, hc⟩
    | stop t c => simp only [act, hph]; split <;> exact ⟨hT, hg, hp, hc⟩
    | close t c =>
      obtain ⟨h1, h2, h3, h4⟩ := hp'
      simp only [act, hph]; split
      · split
        · exact ⟨hT, hg, ⟨since, h1, h3, Nat.le_of_lt h4, fun hne => absurd rfl hne⟩, hc⟩
        · next hne => exact ⟨hT, hg, ⟨h1, hne, h3, h4⟩, hc⟩
      · exact ⟨hT, hg, hp, hc⟩

theorem inv_run {T g : Nat} (hg0 : 0 < g) (evs : List Ev) (s : Srv) (h : Inv T g s) : Inv T g (run s evs) :=
  List.foldlRecOn evs _ h fun _ h e _ => act_inv hg0 (advance_inv h e.time) e

end ShutM
