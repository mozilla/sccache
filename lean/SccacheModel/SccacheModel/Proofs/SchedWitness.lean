import SccacheModel.Model.Sched

/-! F-C18-a on the pinned `allocRecord`: a fresh-nonce heartbeat between choice and recording ends in a panicking
    `Complete` update. -/
namespace SchedM

open Sched

def witness : Sched × SRes :=
  let c0 : Sched := {}
  let c1 := (c0.heartbeat 0 1 1).1            -- server 0 registers (nonce 1, 1 cpu)
  let c2 := (c1.allocChoose (some 0)).1        -- job 0 chosen for server 0, locks released
  let c3 := (c2.heartbeat 0 2 1).1            -- server 0 re-registers with nonce 2 inside the window
  let c4 := (c3.allocRecord 0 0 .ready).1      -- assignment succeeded, job recorded
  let c5 := (c4.update 0 0 .started).1
  c5.update 0 0 .complete

/-- before the panic the job is attributed to a server that does not list it -/
theorem sched_attribution_witness :
    let c0 : Sched := {}
    let c4 := ((((c0.heartbeat 0 1 1).1.allocChoose (some 0)).1.heartbeat 0 2 1).1.allocRecord 0 0 .ready).1
    c4.jobs.map (·.id) = [0] ∧ (c4.servers.map (·.assigned)) = [[]] := by decide

end SchedM
