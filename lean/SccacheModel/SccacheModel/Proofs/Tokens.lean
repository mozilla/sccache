import SccacheModel.Model.Tokens

/-! C16: `TInv` (tokens are conserved, every live child owns one, ids are fresh and distinct) is kept by every action
    of the pool; `token_bound` and `token_no_leak` read it off, `token_progress` is one step of `grant`. -/
namespace TokensM

structure TInv (p : Pool) : Prop where
  cons : p.avail + p.holding.length = p.n                 -- tokens are conserved
  sub : ∀ id ∈ p.running, id ∈ p.holding                  -- every live child owns a token
  nodupR : p.running.Nodup
  nodupH : p.holding.Nodup
  freshH : ∀ id ∈ p.holding, id < p.next
  freshQ : ∀ w ∈ p.queue, w.id < p.next
  sepQH : ∀ w ∈ p.queue, w.id ∉ p.holding
  nodupQ : (p.queue.map (·.id)).Nodup

theorem tinv_init (n : Nat) : TInv (Pool.init n) := by
  constructor <;> simp [Pool.init]

/-- Everything but the two counts survives when ids only leave the three lists and `next` does not go back. -/
theorem TInv.mono {p p' : Pool} (h : TInv p) (hcons : p'.avail + p'.holding.length = p'.n)
    (hsub : ∀ id ∈ p'.running, id ∈ p'.holding) (hR : p'.running.Sublist p.running) (hH : p'.holding.Sublist p.holding)
    (hQ : (p'.queue.map (·.id)).Sublist (p.queue.map (·.id))) (hnext : p.next ≤ p'.next) : TInv p' := by
  have old : ∀ w ∈ p'.queue, ∃ w0 ∈ p.queue, w0.id = w.id := fun w hw =>
    List.mem_map.mp (hQ.subset (List.mem_map_of_mem hw))
  refine ⟨hcons, hsub, hR.nodup h.nodupR, hH.nodup h.nodupH,
    fun id hi => Nat.lt_of_lt_of_le (h.freshH id (hH.subset hi)) hnext, fun w hw => ?_, fun w hw hc => ?_, hQ.nodup h.nodupQ⟩
  · obtain ⟨w0, hw0, e⟩ := old w hw
    exact e ▸ Nat.lt_of_lt_of_le (h.freshQ w0 hw0) hnext
  · obtain ⟨w0, hw0, e⟩ := old w hw
    exact h.sepQH w0 hw0 (e ▸ hH.subset hc)

theorem length_erase_succ {l : List Nat} {a : Nat} (h : a ∈ l) : (l.erase a).length + 1 = l.length := by
  have := List.length_erase_of_mem h
  have := List.length_pos_of_mem h
  omega

theorem tinv_step (p : Pool) (h : TInv p) (a : TAct) : TInv (tstep p a) := by
  cases a with
  | request =>
    -- the new waiter's id `next` is above every id in the queue and in `holding`
    simp only [tstep]
    refine ⟨h.cons, h.sub, h.nodupR, h.nodupH, fun id hi => Nat.lt_succ_of_lt (h.freshH id hi), ?_, ?_, ?_⟩
    · exact List.forall_mem_append.mpr ⟨fun w hw => Nat.lt_succ_of_lt (h.freshQ w hw), by simp⟩
    · exact List.forall_mem_append.mpr ⟨h.sepQH, by simpa using fun hc => Nat.lt_irrefl _ (h.freshH _ hc)⟩
    · simpa [List.nodup_append] using ⟨h.nodupQ, fun w hw => Nat.ne_of_lt (h.freshQ w hw)⟩
  | cancel id =>
    have ids : (p.queue.map fun w => if w.id == id then { w with cancelled := true } else w).map (·.id) = p.queue.map (·.id) := by
      rw [List.map_map]
      exact List.map_congr_left fun w _ => by simp only [Function.comp]; split <;> rfl
    exact h.mono h.cons h.sub (.refl _) (.refl _) (ids ▸ .refl _) (Nat.le_refl _)
  | grant =>
    simp only [tstep]
    cases hq : p.queue with
    | nil => exact h
    | cons w rest =>
      simp only
      split
      · exact h
      · have hw : w ∈ p.queue := hq ▸ List.mem_cons_self
        have pop : TInv { p with queue := rest } :=
          h.mono h.cons h.sub (.refl _) (.refl _) (hq ▸ (List.sublist_cons_self w rest).map _) (Nat.le_refl _)
        split
        · exact pop
        · -- the head's id moves from the queue to `holding`: it was in neither `holding` nor the rest of the queue
          have hnq : w.id ∉ rest.map (·.id) := (List.nodup_cons.mp (by simpa [hq] using h.nodupQ)).1
          refine ⟨?_, fun id hid => List.mem_cons_of_mem _ (h.sub id hid), h.nodupR,
            List.nodup_cons.mpr ⟨h.sepQH w hw, h.nodupH⟩, List.forall_mem_cons.mpr ⟨h.freshQ w hw, h.freshH⟩,
            pop.freshQ, fun w' hw' hc => ?_, pop.nodupQ⟩
          · have := h.cons; show p.avail - 1 + (p.holding.length + 1) = p.n; omega
          · rcases List.mem_cons.mp hc with e | hm
            · exact hnq (e ▸ List.mem_map_of_mem hw')
            · exact pop.sepQH w' hw' hm
  | spawnOk id =>
    simp only [tstep]
    split
    next hc =>
      exact ⟨h.cons, List.forall_mem_cons.mpr ⟨hc.1, h.sub⟩, List.nodup_cons.mpr ⟨hc.2, h.nodupR⟩, h.nodupH, h.freshH,
        h.freshQ, h.sepQH, h.nodupQ⟩
    next => exact h
  | spawnErr id =>
    simp only [tstep]
    split
    next hc =>
      refine h.mono ?_ (fun x hx => ?_) (.refl _) List.erase_sublist (.refl _) (Nat.le_refl _)
      · have := h.cons; have := length_erase_succ hc.1
        show p.avail + 1 + (p.holding.erase id).length = p.n; omega
      · exact (List.mem_erase_of_ne fun (e : x = id) => hc.2 (e ▸ hx)).mpr (h.sub x hx)
    next => exact h
  | exit id =>
    simp only [tstep]
    split
    next hc =>
      refine h.mono ?_ (fun x hx => ?_) List.erase_sublist List.erase_sublist (.refl _) (Nat.le_refl _)
      · have := h.cons; have := length_erase_succ hc.2
        show p.avail + 1 + (p.holding.erase id).length = p.n; omega
      · obtain ⟨hne, hxr⟩ := h.nodupR.mem_erase_iff.mp hx
        exact (List.mem_erase_of_ne hne).mpr (h.sub x hxr)
    next => exact h

theorem tinv_run (as : List TAct) (p : Pool) (h : TInv p) : TInv (trun p as) :=
  List.foldlRecOn as _ h fun p h a _ => tinv_step p h a

theorem tstep_n (p : Pool) (a : TAct) : (tstep p a).n = p.n := by
  cases a <;> simp only [tstep] <;> (repeat' split) <;> rfl

theorem trun_n (as : List TAct) (p : Pool) : (trun p as).n = p.n :=
  List.foldlRecOn (motive := fun q : Pool => q.n = p.n) as _ rfl fun _ h a _ => (tstep_n _ a).trans h

theorem TInv.bound {p : Pool} (h : TInv p) : p.running.length + p.avail ≤ p.n := by
  have := List.Nodup.length_le_of_subset h.nodupR h.sub
  have := h.cons
  omega

/-- C16 `token_bound`: never more live compiler processes than tokens, in every reachable state -/
theorem token_bound (n : Nat) (as : List TAct) : (trun (Pool.init n) as).running.length ≤ n := by
  have := (tinv_run as _ (tinv_init n)).bound
  rw [trun_n] at this
  exact Nat.le_trans (Nat.le_add_right _ _) this

/-- C16 `token_no_leak`: whenever nothing holds a token, the pool is full again -/
theorem token_no_leak (n : Nat) (as : List TAct) (hq : (trun (Pool.init n) as).holding = []) :
    (trun (Pool.init n) as).avail = (trun (Pool.init n) as).n := by
  simpa [hq] using (tinv_run as _ (tinv_init n)).cons

theorem grant_cons {p : Pool} {w : Waiter} {rest : List Waiter} (hq : p.queue = w :: rest) (ha : 0 < p.avail) :
    tstep p .grant = if w.cancelled then { p with queue := rest }
      else { p with queue := rest, avail := p.avail - 1, holding := w.id :: p.holding } := by
  simp only [tstep, hq, Nat.ne_of_gt ha, if_false]

/-- C16 `token_progress`: a token in the pipe and a live waiter at the head means `grant` hands it over (FIFO) -/
theorem token_progress (p : Pool) (w : Waiter) (rest : List Waiter) (hq : p.queue = w :: rest)
    (ha : 0 < p.avail) (hc : w.cancelled = false) :
    (tstep p .grant).holding = w.id :: p.holding ∧ (tstep p .grant).queue = rest := by
  simp [grant_cons hq ha, hc]

#print axioms token_bound

end TokensM
