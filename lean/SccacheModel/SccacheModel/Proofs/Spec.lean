import SccacheModel.Model.Spec

/-! The properties of the abstract cache.  `Sound` holds after every history, so a reply is the direct compiler's
    result (C01 `transparent`, C09) and a failed compile is never cached; an entry survives the events that `Keeps`
    it (C03 `repeat_hits`); with every store refused the cache does not change (C15). -/
namespace L0

theorem estep_entry (cc : CC) (c : Cache) (e : Ev) (k : Nat) :
    (estep cc c e).1 k = c k ∨ ((estep cc c e).1 k = some (cc k) ∧ (cc k).ok = true) ∨
      ((estep cc c e).1 k = none ∧ ¬ Keeps k e) := by
  cases e with
  | request fp lf sf =>
    simp only [estep]
    split
    · exact .inl rfl
    · dsimp only
      split
      next h =>
        simp only [upd]
        split
        · subst k; exact .inr (.inl ⟨rfl, (Bool.and_eq_true _ _ ▸ h).1⟩)
        · exact .inl rfl
      next => exact .inl rfl
  | evict fp | corrupt fp =>
    simp only [estep, upd, Keeps]
    split
    · exact .inr (.inr ⟨rfl, by simp [*]⟩)
    · exact .inl rfl
  | restart => exact .inl rfl

theorem sound_step (cc : CC) (c : Cache) (h : Sound cc c) (e : Ev) : Sound cc (estep cc c e).1 := by
  intro k r hk
  rcases estep_entry cc c e k with h' | ⟨h', hok⟩ | ⟨h', _⟩ <;> rw [h'] at hk
  · exact h k r hk
  · cases hk; exact ⟨rfl, hok⟩
  · cases hk

theorem erun_eq_foldl (cc : CC) (c : Cache) (es : List Ev) : erun cc c es = es.foldl (fun c e => (estep cc c e).1) c := by
  induction es generalizing c with
  | nil => rfl
  | cons e es ih => exact ih _

theorem erun_rec {P : Cache → Prop} (cc : CC) {c : Cache} (es : List Ev) (h0 : P c)
    (hs : ∀ c, P c → ∀ e ∈ es, P (estep cc c e).1) : P (erun cc c es) :=
  erun_eq_foldl cc c es ▸ List.foldlRecOn es _ h0 hs

theorem erun_append (cc : CC) (a b : List Ev) (c : Cache) : erun cc c (a ++ b) = erun cc (erun cc c a) b := by
  simp only [erun_eq_foldl, List.foldl_append]

theorem sound_run (cc : CC) (es : List Ev) (c : Cache) (h : Sound cc c) : Sound cc (erun cc c es) :=
  erun_rec cc es h fun c h e _ => sound_step cc c h e

theorem sound_hist (cc : CC) (hist : List Ev) : Sound cc (erun cc (fun _ => none) hist) :=
  sound_run cc hist _ (by intro k r hk; cases hk)

theorem request_obs (cc : CC) (c : Cache) (hs : Sound cc c) (fp : Nat) (lf sf : Bool) :
    (estep cc c (.request fp lf sf)).2 = some ⟨cc fp, lf || (c fp).isNone⟩ := by
  cases lf <;> cases hc : c fp <;> simp [estep, hc]
  exact (hs fp _ hc).1

theorem request_stores (cc : CC) (c : Cache) (hs : Sound cc c) (fp : Nat) (hok : (cc fp).ok = true) :
    (estep cc c (.request fp false false)).1 fp = some (cc fp) := by
  cases hc : c fp with
  | some r => simp [estep, hc, (hs fp r hc).1]
  | none => simp [estep, hc, hok, upd]

/-- C01 `transparent`, C09 `transparent_under_faults`: after any history, the reply to a request is the direct compiler's result -/
theorem transparent (cc : CC) (hist : List Ev) (fp : Nat) (lf sf : Bool) (o : Obs)
    (h : (estep cc (erun cc (fun _ => none) hist) (.request fp lf sf)).2 = some o) : o.reply = cc fp := by
  rw [request_obs cc _ (sound_hist cc hist)] at h
  cases h; rfl

theorem failed_never_cached (cc : CC) (hist : List Ev) (k : Nat) (r : Result)
    (h : erun cc (fun _ => none) hist k = some r) : r.ok = true :=
  (sound_hist cc hist k r h).2

theorem keeps_run (cc : CC) (fp : Nat) (es : List Ev) (hk : ∀ e ∈ es, Keeps fp e) (c : Cache) (h : c fp = some (cc fp)) :
    erun cc c es fp = some (cc fp) :=
  erun_rec (P := fun c => c fp = some (cc fp)) cc es h fun c h e he => by
    rcases estep_entry cc c e fp with h' | ⟨h', _⟩ | ⟨_, h'⟩
    · rw [h', h]
    · exact h'
    · exact absurd (hk e he) h'

/-- C03 `repeat_hits`: a stored result survives every event that `Keeps` it and is then answered without running the compiler -/
theorem repeat_hits (cc : CC) (before after : List Ev) (fp : Nat) (hok : (cc fp).ok = true)
    (hkeep : ∀ e ∈ after, Keeps fp e) (sf : Bool) :
    let c := erun cc (fun _ => none) (before ++ [.request fp false false] ++ after)
    (estep cc c (.request fp false sf)).2 = some ⟨cc fp, false⟩ := by
  intro c
  have hfp : c fp = some (cc fp) := by
    simp only [c, erun_append]
    exact keeps_run cc fp after hkeep _ (request_stores cc _ (sound_hist cc before) fp hok)
  rw [request_obs cc c (sound_hist cc _), hfp]; rfl

/-- C15: with every store refused (read-only cache) no history changes the cache -/
theorem readonly_unchanged (cc : CC) (c : Cache) (es : List Ev)
    (hro : ∀ e ∈ es, match e with | .request _ _ sf => sf = true | .restart => True | _ => False) :
    erun cc c es = c := by
  refine erun_rec (P := (· = c)) cc es rfl fun c' hc' e he => ?_
  subst hc'
  have he := hro e he
  cases e with
  | request fp lf sf => subst he; simp only [estep]; split <;> simp
  | restart => rfl
  | evict k | corrupt k => cases he

#print axioms transparent
#print axioms repeat_hits

end L0
