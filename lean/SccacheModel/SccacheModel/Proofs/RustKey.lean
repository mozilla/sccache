import SccacheModel.Model.RustKey
import SccacheModel.Proofs.ListAux

/-! C05: `leArg` is a total order, so sorting the `--cfg` arguments makes the key pre-image insensitive to their order
    (`rust_key_perm`); `--extern`, `-L` and `--out-dir` arguments are not part of it (`rust_key_ignores_extern_paths`),
    nor is the crate name an rlib is bound to (F-C05-a). -/
namespace RustKeyM

/-- `leBytes` decides the lexicographic order that core Lean puts on lists, so its order laws are core's -/
theorem leBytes_iff (a b : Bytes) : leBytes a b = true ↔ a ≤ b := by
  fun_induction leBytes a b with
  | case1 => simp
  | case2 => simp
  | case3 a as b bs h => simp [List.cons_le_cons_iff, h]
  | case4 a as b bs h1 h2 => simp [List.cons_le_cons_iff, h1, (UInt8.ne_of_lt h2).symm]
  | case5 a as b bs h1 h2 ih =>
    simp [List.cons_le_cons_iff, UInt8.le_antisymm (UInt8.not_lt.mp h2) (UInt8.not_lt.mp h1), ih]

theorem leBytes_refl (a : Bytes) : leBytes a a = true := (leBytes_iff a a).mpr (List.le_refl a)

theorem leBytes_total (a b : Bytes) : (leBytes a b || leBytes b a) = true := by
  simpa [leBytes_iff] using List.le_total a b

theorem leBytes_antisymm (a b : Bytes) (h1 : leBytes a b = true) (h2 : leBytes b a = true) : a = b :=
  List.le_antisymm ((leBytes_iff a b).mp h1) ((leBytes_iff b a).mp h2)

theorem leBytes_trans (a b c : Bytes) (h1 : leBytes a b = true) (h2 : leBytes b c = true) : leBytes a c = true :=
  (leBytes_iff a c).mpr (List.le_trans ((leBytes_iff a b).mp h1) ((leBytes_iff b c).mp h2))

theorem leOpt_total (a b : Option Bytes) : (leOpt a b || leOpt b a) = true := by
  cases a <;> cases b <;> simp [leOpt, leBytes_total]
theorem leOpt_antisymm (a b : Option Bytes) (h1 : leOpt a b = true) (h2 : leOpt b a = true) : a = b := by
  cases a <;> cases b <;> simp [leOpt] at h1 h2 ⊢
  exact leBytes_antisymm _ _ h1 h2
theorem leOpt_trans (a b c : Option Bytes) (h1 : leOpt a b = true) (h2 : leOpt b c = true) : leOpt a c = true := by
  cases a <;> cases b <;> cases c <;> simp [leOpt] at h1 h2 ⊢
  exact leBytes_trans _ _ _ h1 h2

/-- C05 `rust_key_perm`: reordering the `--cfg` arguments keeps the key pre-image -/
theorem rust_key_perm (r1 r2 : RReq) (hrest : restArgs r1 = restArgs r2) (hcfg : (cfgArgs r1).Perm (cfgArgs r2))
    (h1 : r1.version = r2.version) (h2 : r1.shlibDigests = r2.shlibDigests) (h3 : r1.sourceHashes = r2.sourceHashes)
    (h4 : r1.externHashes = r2.externHashes) (h5 : r1.staticlibHashes = r2.staticlibHashes)
    (h6 : r1.targetJsonHash = r2.targetJsonHash) (h7 : r1.envDeps = r2.envDeps) (h8 : r1.cargoEnv = r2.cargoEnv)
    (h9 : r1.cwd = r2.cwd) (h10 : r1.rustcVersion = r2.rustcVersion) : encRust r1 = encRust r2 := by
  have : argString r1 = argString r2 := by
    -- `leArg` compares the flags by `leBytes` and, when they are equal, the values by `leOpt`
    have hle : ∀ a b, leArg a b = if a.1 == b.1 then leOpt a.2 b.2 else leBytes a.1 b.1 := fun _ _ => rfl
    rw [argString, argString, hrest, mergeSort_eq_of_perm leArg
      (fun a b => lexPair_total hle a b (fun _ => leBytes_total _ _) (leOpt_total _ _))
      (fun a b => lexPair_antisymm hle a b (leBytes_antisymm _ _) (leOpt_antisymm _ _))
      (fun a b c => lexPair_trans hle a b c (leBytes_antisymm _ _) (leBytes_trans _ _ _) (leOpt_trans _ _ _)) hcfg]
  simp only [encRust, this, h1, h2, h3, h4, h5, h6, h7, h8, h9, h10]

theorem argString_congr {r r' : RReq} (hj : r.targetJson = r'.targetJson)
    (h : (r.args.filter fun a => !(flagIs fExtern a || flagIs fL a || flagIs fOutDir a)) =
      r'.args.filter fun a => !(flagIs fExtern a || flagIs fL a || flagIs fOutDir a)) : argString r = argString r' := by
  simp only [argString, restArgs, cfgArgs, hashedArgs, h, hj]

/-- C05 `rust_key_ignores_extern_paths`: those inputs reach the key through content digests only -/
theorem rust_key_ignores_extern_paths (r : RReq) (extra : List RArg)
    (hx : ∀ a ∈ extra, (flagIs fExtern a || flagIs fL a || flagIs fOutDir a) = true) :
    argString { r with args := r.args ++ extra } = argString r := by
  refine argString_congr rfl ?_
  rw [List.filter_append, List.filter_eq_nil_iff (l := extra) |>.mpr fun a ha => by simp [hx a ha], List.append_nil]

#print axioms rust_key_perm

/-! ### F-C05-a: the `name=` half of `--extern` is not part of the key -/

/-- two requests that differ only in which crate name is bound to which rlib: `--extern a=libp.rlib --extern
    b=libq.rlib` against `--extern a=libq.rlib --extern b=libp.rlib` (the extern digests are taken in sorted *path*
    order, so they are the same list) -/
def exSwap (swapped : Bool) : RReq :=
  { version := [1], shlibDigests := [], targetJson := false,
    args := if swapped then [(fExtern, some [97, 61, 113]), (fExtern, some [98, 61, 112])]     -- a=q b=p
            else [(fExtern, some [97, 61, 112]), (fExtern, some [98, 61, 113])],               -- a=p b=q
    sourceHashes := [[7]], externHashes := [[112], [113]], staticlibHashes := [], targetJsonHash := [],
    envDeps := [], cargoEnv := [], cwd := [47, 119], rustcVersion := [49] }

theorem extern_alias_witness :
    encRust (exSwap true) = encRust (exSwap false) ∧ (exSwap true).args ≠ (exSwap false).args := by
  refine ⟨?_, by decide⟩
  have h : argString (exSwap true) = argString (exSwap false) := argString_congr rfl (by decide)
  rw [encRust, encRust, h]
  rfl

end RustKeyM
