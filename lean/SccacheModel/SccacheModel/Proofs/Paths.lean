import SccacheModel.Model.TcPaths

namespace PathsM

/-! C19 for the path arithmetic (`Model/Paths.lean`) and, at the end, for the two paths built from toolchain ids
(`Model/TcPaths.lean`).  Everything rests on three facts: `splitSlash` is core's `List.splitOn` (`splitSlash_eq`) and so
distributes over a separator, `istep` is `rstep` behind a guard that refuses exactly a `..` at the root (`istep_some`), and
`rstep` acts on the top of the stack only (`rstep_append`).

The conditions of the model are `Bool`s (`x == slash`, `c == [dot, dot]`): the proofs take cases on the `Bool` itself, which
is far cheaper to check than `split` or `simp` on the `if`. -/

theorem splitSlash_cons (x : UInt8) (xs : Bytes) :
    splitSlash (x :: xs) =
      (if x == slash then [] :: splitSlash xs
       else match splitSlash xs with | [] => [[x]] | y :: ys => (x :: y) :: ys) := by rfl

theorem splitSlash_eq (s : Bytes) : splitSlash s = s.splitOn slash := by
  induction s with
  | nil => rfl
  | cons x xs ih =>
    rw [splitSlash_cons, List.splitOn_cons_eq_if_modifyHead, ih]
    cases hs : xs.splitOn slash with
    | nil => exact absurd hs (List.splitOn_ne_nil slash xs)
    | cons y ys => rfl

theorem splitSlash_append (a b : Bytes) : splitSlash (a ++ slash :: b) = splitSlash a ++ splitSlash b := by
  simp only [splitSlash_eq, List.splitOn_append_cons_of_beq a b (rfl : (slash == slash) = true)]

theorem splitSlash_noslash (s : Bytes) (h : slash ∉ s) : splitSlash s = [s] := by
  rw [splitSlash_eq, List.splitOn_eq_singleton h]

def rstep (stack : List Bytes) (c : Bytes) : List Bytes :=
  if c.isEmpty || c == [dot] then stack
  else if c == [dot, dot] then stack.dropLast
  else stack ++ [c]

theorem resolve_eq (p : Bytes) : resolve p = (splitSlash p).foldl rstep [] := rfl

theorem resolve_append (p q : Bytes) : resolve (p ++ slash :: q) = (splitSlash q).foldl rstep (resolve p) := by
  rw [resolve_eq, splitSlash_append, List.foldl_append, resolve_eq]

theorem rstep_normal (st : List Bytes) (c : Bytes) (hne : c ≠ []) (hd : c ≠ [dot]) (hdd : c ≠ [dot, dot]) :
    rstep st c = st ++ [c] := by
  simp [rstep, hne, hd, hdd]

theorem rstep_append (base s : List Bytes) (c : Bytes) (h : ¬ (c = [dot, dot] ∧ s = [])) :
    rstep (base ++ s) c = base ++ rstep s c := by
  unfold rstep
  cases c.isEmpty || c == [dot]
  · cases hc : c == [dot, dot]
    · exact List.append_assoc ..
    · exact List.dropLast_append_of_ne_nil fun e => h ⟨eq_of_beq hc, e⟩
  · rfl

theorem istep_some (s : List Bytes) (c : Bytes) :
    istep (some s) c = if c = [dot, dot] ∧ s = [] then none else some (rstep s c) := by
  by_cases h : c = [dot, dot] ∧ s = []
  · rw [if_pos h, h.1, h.2]; rfl
  · rw [if_neg h]
    unfold istep rstep
    cases c.isEmpty || c == [dot]
    · cases hc : c == [dot, dot]
      · rfl
      · cases s with
        | nil => exact absurd ⟨eq_of_beq hc, rfl⟩ h
        | cons => rfl
    · rfl

theorem resolve_pjoin (target rest : Bytes) (hr : hasRoot rest = false) :
    resolve (pjoin target rest) = (splitSlash rest).foldl rstep (resolve target) := by
  unfold pjoin
  rw [hr, if_neg Bool.false_ne_true]
  cases target with
  | nil => rfl
  | cons x t =>
    rw [List.isEmpty_cons, if_neg Bool.false_ne_true]
    cases hl : (x :: t).getLast? == some slash
    · rw [if_neg Bool.false_ne_true, List.append_assoc, List.singleton_append, resolve_append]
    · -- the base is `u/`, which resolves as `u` does: the empty last component vanishes
      obtain ⟨u, e⟩ := List.getLast?_eq_some_iff.mp (eq_of_beq hl)
      rw [if_pos rfl, e, List.append_assoc, List.singleton_append, resolve_append, resolve_append u []]
      rfl

theorem foldl_istep_none (cs : List Bytes) : cs.foldl istep none = none := by
  induction cs with
  | nil => rfl
  | cons c cs ih => exact ih

theorem foldl_istep_sound (cs : List Bytes) (s q base : List Bytes) (h : cs.foldl istep (some s) = some q) :
    cs.foldl rstep (base ++ s) = base ++ q := by
  induction cs generalizing s with
  | nil => cases h; rfl
  | cons c cs ih =>
    rw [List.foldl_cons, istep_some] at h
    by_cases hc : c = [dot, dot] ∧ s = []
    · rw [if_pos hc, foldl_istep_none] at h; cases h
    · rw [if_neg hc] at h
      rw [List.foldl_cons, rstep_append base s c hc]
      exact ih _ h

/-- C19 `confined_all`: whatever `resolve_inside` accepts resolves to the root followed by the returned names -/
theorem resolveInside_sound (target rest : Bytes) (q : List Bytes) (hr : hasRoot rest = false)
    (h : resolveInside rest = some q) :
    resolve (pjoin target rest) = resolve target ++ q := by
  rw [resolve_pjoin target rest hr, ← foldl_istep_sound (splitSlash rest) [] q (resolve target) h, List.append_nil]

theorem foldl_istep_of_no_dotdot (cs : List Bytes) (h : ∀ c ∈ cs, c ≠ [dot, dot]) (s : List Bytes) :
    cs.foldl istep (some s) = some (cs.foldl rstep s) := by
  induction cs generalizing s with
  | nil => rfl
  | cons c cs ih =>
    rw [List.foldl_cons, istep_some, if_neg fun hc => h c List.mem_cons_self hc.1]
    exact ih (fun x hx => h x (List.mem_cons_of_mem _ hx)) _

/-- C19 `confined_partial`: a remainder without `..` is never refused by `resolve_inside`, so this is a case of `resolveInside_sound`. -/
theorem confined_partial (target rest : Bytes)
    (ht : target ≠ []) (hl : target.getLast? ≠ some slash)
    (hr : hasRoot rest = false) (hdd : ∀ c ∈ splitSlash rest, c ≠ [dot, dot]) :
    confined target (pjoin target rest) = true := by
  rw [confined, List.isPrefixOf_iff_prefix,
    resolveInside_sound target rest _ hr (foldl_istep_of_no_dotdot _ hdd [])]
  exact List.prefix_append _ _

/-- C19 `every_step_inside`: with `create_dirs` no directory is ever created outside the root -/
theorem resolveInside_steps_inside (target rest : Bytes) (q : List Bytes) (h : resolveInside rest = some q)
    (cs₁ cs₂ : List Bytes) (hs : splitSlash rest = cs₁ ++ cs₂) :
    resolve target <+: cs₁.foldl rstep (resolve target) := by
  rw [resolveInside, hs, List.foldl_append] at h
  -- a refusal is final, so the walk over `cs₁` was accepted too
  cases h1 : cs₁.foldl istep (some []) with
  | none => rw [h1, foldl_istep_none] at h; cases h
  | some q₁ =>
    have := foldl_istep_sound cs₁ [] q₁ (resolve target) h1
    rw [List.append_nil] at this
    exact this ▸ List.prefix_append _ _

/-- C19 `refused_only_when_leaving` (`hb`: the root is not `/` itself) -/
theorem foldl_istep_refuses_only_escapes (cs : List Bytes) (s base : List Bytes) (hb : base ≠ [])
    (h : cs.foldl istep (some s) = none) :
    ∃ cs₁ cs₂, cs = cs₁ ++ cs₂ ∧ ¬ (base <+: cs₁.foldl rstep (base ++ s)) := by
  induction cs generalizing s with
  | nil => cases h
  | cons c cs ih =>
    rw [List.foldl_cons, istep_some] at h
    by_cases hc : c = [dot, dot] ∧ s = []
    · -- the escape happens here: `..` with the stack at `base`
      obtain ⟨rfl, rfl⟩ := hc
      refine ⟨[[dot, dot]], cs, rfl, fun hp => ?_⟩
      have hl : base.length ≤ (base ++ []).dropLast.length := hp.length_le
      rw [List.append_nil, List.length_dropLast] at hl
      have := List.length_pos_iff.mpr hb
      omega
    · rw [if_neg hc] at h
      obtain ⟨a, b, rfl, hn⟩ := ih _ h
      exact ⟨c :: a, b, rfl, by rwa [List.foldl_cons, rstep_append base s c hc]⟩

theorem resolve_push (p c : Bytes) (hne : c ≠ []) (h : ∀ b ∈ c, b ≠ slash ∧ b ≠ dot) :
    resolve (p ++ [slash] ++ c) = resolve p ++ [c] := by
  have hd : ∀ n, c ≠ List.replicate (n + 1) dot := fun n e => (h dot (e ▸ List.mem_cons_self)).2 rfl
  rw [List.append_assoc, List.singleton_append, resolve_append, splitSlash_noslash c fun hm => (h slash hm).1 rfl]
  exact rstep_normal _ c hne (hd 0) (hd 1)

theorem hex_ne (b : UInt8) (h : isHexByte b = true) : b ≠ slash ∧ b ≠ dot := by
  constructor <;> (rintro rfl; revert h; decide)

theorem validId_cons (id : Bytes) (hv : validId id = true) :
    ∃ a b r, id = a :: b :: r ∧ ∀ x ∈ id, x ≠ slash ∧ x ≠ dot := by
  rw [validId, Bool.and_eq_true, decide_eq_true_iff, List.all_eq_true] at hv
  obtain _ | ⟨a, _ | ⟨b, r⟩⟩ := id
  · exact absurd hv.1 (by decide : ¬ 2 ≤ 0)
  · exact absurd hv.1 (by decide : ¬ 2 ≤ 1)
  · exact ⟨a, b, r, rfl, fun x hx => hex_ne x (hv.2 x hx)⟩

/-- C19 `toolchain_path_confined`: the path of an id that `valid_archive_id` accepts is exactly three names below the cache root -/
theorem keyPath_confined (root id : Bytes) (hv : validId id = true) :
    resolve (keyPath root id) = resolve root ++ [id.take 1, (id.drop 1).take 1, id] := by
  obtain ⟨a, b, r, rfl, h⟩ := validId_cons id hv
  show resolve (root ++ [slash] ++ [a] ++ [slash] ++ [b] ++ [slash] ++ (a :: b :: r)) = resolve root ++ [[a], [b], a :: b :: r]
  rw [resolve_push _ (a :: b :: r) (List.cons_ne_nil _ _) h,
    resolve_push _ [b] (List.cons_ne_nil _ _) (List.forall_mem_singleton.mpr (h b (List.mem_cons_of_mem _ List.mem_cons_self))),
    resolve_push _ [a] (List.cons_ne_nil _ _) (List.forall_mem_singleton.mpr (h a List.mem_cons_self)),
    List.append_assoc, List.append_assoc]
  rfl

/-- C19 `overlay_dir_confined`: a directory the overlay builder creates for an id is exactly `<builder>/toolchains/<id>` -/
theorem overlayDir_confined (builder id : Bytes) (c : Bool) (p : Bytes) (h : overlayDir builder id c = some p) :
    resolve p = resolve builder ++ [tcDirName, id] := by
  unfold overlayDir at h
  cases hv : validId id && c
  · rw [hv] at h; cases h
  · rw [hv] at h; cases h
    obtain ⟨a, b, r, rfl, hid⟩ := validId_cons id (Bool.and_eq_true_iff.mp hv).1
    rw [resolve_push _ _ (List.cons_ne_nil _ _) hid, resolve_push _ tcDirName (by decide) (by decide), List.append_assoc]
    rfl

theorem overlayDir_of_invalid (builder id : Bytes) (c : Bool) (h : validId id = false) : overlayDir builder id c = none := by
  rw [overlayDir, h]; rfl

/-- `../../x`, `/tmp/x`, the empty id -/
theorem overlayDir_refuses_bad_ids (builder : Bytes) (c : Bool) :
    overlayDir builder [46, 46, 47, 46, 46, 47, 120] c = none ∧ overlayDir builder [47, 116, 109, 112, 47, 120] c = none ∧
    overlayDir builder [] c = none :=
  ⟨overlayDir_of_invalid _ _ _ (by decide), overlayDir_of_invalid _ _ _ (by decide), overlayDir_of_invalid _ _ _ (by decide)⟩

/-- F-C19-c (fixed aa1c43e), kernel-checked: before the fix the ids `../../x` and `/tmp/x` named directories outside `/b/d` -/
theorem overlayDirBefore_escape_witness :
    confined [47, 98, 47, 100] (overlayDirBefore [47, 98, 47, 100] [46, 46, 47, 46, 46, 47, 120]) = false ∧
    confined [47, 98, 47, 100] (overlayDirBefore [47, 98, 47, 100] [47, 116, 109, 112, 47, 120]) = false := by decide

theorem trimLeftFuel_noRoot (fuel : Nat) (s : Bytes) (h : s.length < fuel) : hasRoot (trimLeftFuel fuel s) = false := by
  -- every branch recurses on a shorter string, returns `[]`, or returns a string whose head was just seen not to be `/`
  fun_induction trimLeftFuel fuel s with
  | case1 => exact absurd h (Nat.not_lt_zero _)
  | case2 | case4 => rfl
  | case3 _ _ _ _ ih | case5 _ _ _ _ _ _ _ ih => exact ih (Nat.lt_of_succ_lt_succ h)
  | case6 _ _ hc | case7 _ _ _ hc => exact eq_false_of_ne_true hc

/-- non-vacuity: an ordinary job root and output path meet the hypotheses -/
example : confined [47, 115, 114, 118] (pjoin [47, 115, 114, 118] [119, 47, 46, 47, 111, 46, 111]) = true :=
  confined_partial _ _ (by decide) (by decide) (by decide) (by decide)

#print axioms confined_partial

end PathsM
