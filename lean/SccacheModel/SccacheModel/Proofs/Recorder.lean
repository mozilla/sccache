import SccacheModel.Model.Recorder

/-! The include recorder of preprocessor-cache mode (C04, second tier).  The vocabulary of the statement — `Line`,
    `textOf`, `WF` (well-formed preprocessor output), `Covered` —, what `processLine` and `scan` do at one position,
    and `recorder_sound`: on well-formed output that leaves direct mode on, the file of every line marker is covered. -/
namespace RecM

def LineStart (pre : Bytes) : Prop := pre = [] ∨ pre.getLast? = some bNl

/-- A position of the scanner, as a zipper: index `i` of `bytes` stands between `pre` and `suf`.  What the model tests by
    index (`at'`, `startsAt`, `skipUntil`, `flag3`, the look-back for a line start) is read off `suf` and `pre`, and the
    cursor is moved by `adv`, so that callers are left with no index arithmetic.  It is a predicate on the model's own
    `bytes` and `i`, not a pair `(pre, suf)` to compute with: `scan` and `processLine` stay as they are, a lemma about them
    takes `h : At bytes i pre suf` with `suf` in the shape it needs, and `⟨rfl, rfl⟩` proves it for `pre ++ suf`, `pre.length`
    (the form `WF` is stated in). -/
structure At (bytes : Bytes) (i : Nat) (pre suf : Bytes) : Prop where
  eq : bytes = pre ++ suf
  pos : i = pre.length

namespace At

theorem adv {bytes pre x suf : Bytes} {i : Nat} (h : At bytes i pre (x ++ suf)) : At bytes (i + x.length) (pre ++ x) suf :=
  ⟨by rw [h.eq, List.append_assoc], by rw [h.pos, List.length_append]⟩

theorem adv1 {bytes pre suf : Bytes} {i : Nat} {c : UInt8} (h : At bytes i pre (c :: suf)) : At bytes (i + 1) (pre ++ [c]) suf :=
  h.adv (x := [c])

theorem length {bytes pre suf : Bytes} {i : Nat} (h : At bytes i pre suf) : bytes.length = i + suf.length := by rw [h.eq, h.pos, List.length_append]

theorem drop {bytes pre suf : Bytes} {i : Nat} (h : At bytes i pre suf) : bytes.drop i = suf := by rw [h.eq, h.pos, List.drop_left]

theorem at' {bytes pre suf : Bytes} {i : Nat} {c : UInt8} (h : At bytes i pre (c :: suf)) : RecM.at' bytes i = c := by
  simp [RecM.at', h.eq, h.pos]

theorem skipUntil {bytes rest : Bytes} {c : UInt8} {stop : List UInt8} (hc : c ∈ stop) :
    ∀ {mid pre : Bytes} {i fuel : Nat}, At bytes i pre (mid ++ c :: rest) →
    (∀ b ∈ mid, b ∉ stop) → mid.length < fuel → RecM.skipUntil bytes stop fuel i = i + mid.length
  | [], _, _, fuel + 1, h, _, _ => by simp [RecM.skipUntil, h.at', hc]
  | m :: ms, _, _, fuel + 1, h, hmid, hf => by
    rw [RecM.skipUntil, h.at', if_pos (by simp [hmid m, h.length]),
      skipUntil hc h.adv1 (fun b hb => hmid b (by simp [hb])) (by simpa using hf)]
    simp; omega

theorem flag3 {bytes post : Bytes} : ∀ {flags pre : Bytes} {i fuel : Nat}, At bytes i pre (flags ++ bNl :: post) →
    (∀ b ∈ flags, b ≠ bNl) → flags.length < fuel → RecM.flag3 bytes fuel i = flags.contains b3
  | [], _, _, fuel + 1, h, _, _ => by simp [RecM.flag3, h.at']
  | m :: ms, _, _, fuel + 1, h, hfl, hf => by
    rw [RecM.flag3, h.at', if_pos (by simp [hfl m, h.length]),
      flag3 h.adv1 (fun b hb => hfl b (by simp [hb])) (by simpa using hf), List.contains_cons, Bool.beq_comm (a := m)]

theorem lineStart {bytes pre suf : Bytes} {i : Nat} (h : At bytes i pre suf) :
    (i == 0 || RecM.at' bytes (i - 1) == bNl) = true ↔ LineStart pre := by
  obtain ⟨rfl, rfl⟩ := h
  rcases List.eq_nil_or_concat pre with rfl | ⟨p, l, rfl⟩
  · simp [LineStart]
  · have := (⟨rfl, rfl⟩ : At (p ++ l :: suf) p.length p (l :: suf)).at'
    simp_all [LineStart]

end At

theorem not_lineStart_append (pre x : Bytes) (hne : x ≠ []) (hx : ∀ b ∈ x, b ≠ bNl) : ¬ LineStart (pre ++ x) := by
  rcases List.eq_nil_or_concat x with rfl | ⟨ys, a, rfl⟩
  · exact absurd rfl hne
  · have := hx a (by simp)
    simp [LineStart, this]

/-- the bytes of one well-formed line-marker line: `hd "path" flags \n` -/
def markerLine (hd path flags : Bytes) : Bytes := hd ++ bQuote :: (path ++ bQuote :: (flags ++ [bNl]))

/-- `process_preprocessor_line` on `hd "path" flags`; the empty file name of `# 1 ""` is skipped -/
theorem processLine_quoted {cfg : Cfg} {fs : Bytes → FileKind} {cwd input : Bytes}
    {bytes pre hd path flags post : Bytes} {known : List Bytes} {i hs : Nat}
    (h : At bytes i pre (hd ++ bQuote :: (path ++ bQuote :: (flags ++ bNl :: post))))
    (hhd : ∀ b ∈ hd, b ≠ bQuote ∧ b ≠ bNl) (hpath : ∀ b ∈ path, b ≠ bQuote) (hflags : ∀ b ∈ flags, b ≠ bNl)
    (h31 : startsAt bytes i hash31 = false) (h32 : startsAt bytes i hash32 = false) :
    processLine cfg fs cwd input bytes known i hs =
      (let q := i + hd.length + 1 + path.length
       if path = [] then .brk q q true bytes known
       else match remember cfg fs cwd input known (normalizedText path) (flags.contains b3) with
         | .disable => .brk q (i + hd.length + 1) false bytes known
         | .ok o => .cont q q bytes (known ++ o.toList)) := by
  have hq := h.adv         -- at the opening quote
  have hp := hq.adv1       -- at the path
  have hq' := hp.adv       -- at the closing quote
  have hlen := hq'.length
  simp only [List.length_cons, List.length_append] at hlen
  have s2 : skipUntil bytes [bQuote, bNl] (bytes.length + 1) i = i + hd.length :=
    h.skipUntil (by simp) (by simpa using hhd) (by omega)
  have s4 : skipUntil bytes [bQuote] (bytes.length + 1) (i + hd.length + 1) = i + hd.length + 1 + path.length :=
    hp.skipUntil (by simp) (by simpa using hpath) (by omega)
  have hsys : flag3 bytes (bytes.length + 1) (i + hd.length + 1 + path.length + 1) = flags.contains b3 :=
    hq'.adv1.flag3 hflags (by omega)
  have hge : ¬ (i + hd.length + 1 ≥ bytes.length) := by omega
  simp only [processLine, h31, h32, Bool.and_false, Bool.false_eq_true, if_false, s2, hq.at', s4, hsys, hge, Nat.add_sub_cancel_left,
    hp.drop, List.take_left, show (bQuote == bNl) = false from rfl]
  by_cases hp : path = []
  · simp [hp]
  · have : path.length ≠ 0 := mt List.length_eq_zero_iff.mp hp
    simp only [Nat.add_eq_left, beq_iff_eq, this, hp]
    rcases remember cfg fs cwd input known (normalizedText path) (flags.contains b3) with (_ | _) | _ <;> simp

theorem processLine_noquote {cfg : Cfg} {fs : Bytes → FileKind} {cwd input : Bytes}
    {bytes pre body post : Bytes} {known : List Bytes} {i hs : Nat}
    (h : At bytes i pre (body ++ bNl :: post)) (hbody : ∀ b ∈ body, b ≠ bQuote ∧ b ≠ bNl)
    (h31 : startsAt bytes i hash31 = false) (h32 : startsAt bytes i hash32 = false) :
    processLine cfg fs cwd input bytes known i hs = .brk (i + body.length) hs true bytes known := by
  have hlen := h.adv.length
  have s2 : skipUntil bytes [bQuote, bNl] (bytes.length + 1) i = i + body.length :=
    h.skipUntil (by simp) (by simpa using hbody) (by omega)
  have hlt : i + body.length < bytes.length := by simp [hlen]
  simp [processLine, h31, h32, s2, h.adv.at', hlt]

/-- C04 `marker_line_handling`: the path between the first two quotes, normalised, goes to `remember_include_file` with
    `system` = "a 3 occurs among the flags" -/
theorem processLine_marker (cfg : Cfg) (fs : Bytes → FileKind) (cwd input : Bytes) (pre hd path flags post : Bytes) (known : List Bytes) (hs : Nat)
    (hhd : ∀ b ∈ hd, b ≠ bQuote ∧ b ≠ bNl) (hpath : ∀ b ∈ path, b ≠ bQuote) (hpne : path ≠ []) (hflags : ∀ b ∈ flags, b ≠ bNl)
    (h31 : startsAt (pre ++ markerLine hd path flags ++ post) pre.length hash31 = false)
    (h32 : startsAt (pre ++ markerLine hd path flags ++ post) pre.length hash32 = false) :
    processLine cfg fs cwd input (pre ++ markerLine hd path flags ++ post) known pre.length hs =
      (let q := pre.length + hd.length + 1 + path.length
       match remember cfg fs cwd input known (normalizedText path) (flags.contains b3) with
       | .disable => .brk q (pre.length + hd.length + 1) false (pre ++ markerLine hd path flags ++ post) known
       | .ok none => .cont q q (pre ++ markerLine hd path flags ++ post) known
       | .ok (some p) => .cont q q (pre ++ markerLine hd path flags ++ post) (known ++ [p])) := by
  rw [processLine_quoted (post := post) ⟨by simp [markerLine], rfl⟩ hhd hpath hflags h31 h32]
  simp only [hpne]
  rcases remember cfg fs cwd input known (normalizedText path) (flags.contains b3) with (_ | _) | _ <;> simp

/-- inversion of "keep going": the system-header escape is the only way a readable, old, unknown user header goes unrecorded
    while direct mode stays on -/
theorem remember_ok {cfg : Cfg} {fs : Bytes → FileKind} {cwd input : Bytes} {known : List Bytes} {path : Bytes} {system : Bool}
    {o : Option Bytes} (h : remember cfg fs cwd input known path system = .ok o) :
    o = some (fullPath cwd (stripDot path)) ∨
    o = none ∧ ((path.length ≥ 2 ∧ path.head? = some 60 ∧ path.getLast? = some 62) ∨ (system = true ∧ cfg.skipSystemHeaders = true) ∨
      known.contains (fullPath cwd (stripDot path)) = true ∨
      fullPath cwd (stripDot path) = fullPath cwd input ∨
      fs (fullPath cwd (stripDot path)) = .dir) := by
  revert h
  -- `+zetaDelta`: the hypotheses of the cases speak of the `let`-bound `full`
  fun_cases remember cfg fs cwd input known path system <;> intro h <;> cases h <;> simp_all +zetaDelta

theorem remember_records (cfg : Cfg) (fs : Bytes → FileKind) (cwd input : Bytes) (known : List Bytes) (path : Bytes) (system : Bool)
    (hpseudo : ¬ (path.length ≥ 2 ∧ path.head? = some 60 ∧ path.getLast? = some 62))
    (hsys : ¬ (system = true ∧ cfg.skipSystemHeaders = true))
    (hknown : known.contains (fullPath cwd (stripDot path)) = false)
    (hinput : fullPath cwd (stripDot path) ≠ fullPath cwd input)
    (hslash : (stripDot path).getLast? ≠ some bSlash)
    (ht : Bool) (hfs : fs (fullPath cwd (stripDot path)) = .file false false ht)
    (htime : ht = false ∨ cfg.ignoreTimeMacros = true) :
    remember cfg fs cwd input known path system = .ok (some (fullPath cwd (stripDot path))) := by
  have h1 : (path.length ≥ 2 && path.head? == some 60 && path.getLast? == some 62) = false := by
    simpa using hpseudo
  have h2 : (system && cfg.skipSystemHeaders) = false := by simpa using hsys
  have h3 : (ht && !cfg.ignoreTimeMacros) = false := by cases htime <;> simp [*]
  have h4 : fullPath cwd (stripDot path) ∉ known := by simpa using hknown
  simp [remember, h1, h2, h3, h4, hfs, hinput, hslash]

inductive Line where
  | marker (hd path flags : Bytes)     -- `hd "path" flags` + newline, e.g. hd = `# 12 `
  | other (body : Bytes)               -- anything else + newline
deriving Repr

def Line.bytes : Line → Bytes
  | .marker hd path flags => markerLine hd path flags
  | .other body => body ++ [bNl]

def textOf : List Line → Bytes
  | [] => []
  | l :: ls => l.bytes ++ textOf ls

/-- `# <digit>…` or `#pragma GCC pch_preprocess …` -/
def isMarkerHd (hd : Bytes) : Bool :=
  hd[0]? == some bHash && ((hd[1]? == some bSp && (match hd[2]? with | some d => isDigit d | none => false)) || pragmaPch.isPrefixOf (hd.drop 1))

/-- `4 ≤ hd.length`: `hd` holds at least `# 1 `, so a marker that names a file is eight bytes long and the scanner's cut-off
    seven bytes before the end cannot hide it (`scan_line`) -/
def Line.ok : Line → Prop
  | .marker hd path flags => 4 ≤ hd.length ∧ isMarkerHd hd = true ∧ (∀ b ∈ hd, b ≠ bQuote ∧ b ≠ bNl) ∧ (∀ b ∈ path, b ≠ bQuote ∧ b ≠ bNl) ∧ (∀ b ∈ flags, b ≠ bNl)
  | .other body => ∀ b ∈ body, b ≠ bNl

/-- well-formed preprocessor output after the prefix `pre`: every line is `ok`; no line is one of the two bogus GCC-6
    `<command-line>` lines; a line that looks like a marker either is a `marker` line or holds no quote at all -/
def WF : Bytes → List Line → Prop
  | _, [] => True
  | pre, l :: ls =>
    l.ok ∧ startsAt (pre ++ textOf (l :: ls)) pre.length hash31 = false ∧ startsAt (pre ++ textOf (l :: ls)) pre.length hash32 = false ∧
    (∀ body, l = .other body → isMarker (pre ++ textOf (l :: ls)) pre.length = true → ∀ b ∈ body, b ≠ bQuote) ∧
    WF (pre ++ l.bytes) ls

/-- the file named by a marker is accounted for: recorded, or excluded for one of the documented reasons -/
def Covered (cfg : Cfg) (fs : Bytes → FileKind) (cwd input : Bytes) (rec : List Bytes) (path flags : Bytes) : Prop :=
  ((normalizedText path).length ≥ 2 ∧ (normalizedText path).head? = some 60 ∧ (normalizedText path).getLast? = some 62) ∨
  (flags.contains b3 = true ∧ cfg.skipSystemHeaders = true) ∨
  fullPath cwd (stripDot (normalizedText path)) ∈ rec ∨
  fullPath cwd (stripDot (normalizedText path)) = fullPath cwd input ∨
  fs (fullPath cwd (stripDot (normalizedText path))) = .dir

theorem markerLine_length (hd path flags : Bytes) : (markerLine hd path flags).length = hd.length + 1 + path.length + 1 + flags.length + 1 := by
  simp [markerLine]; omega

theorem lineStart_line (pre : Bytes) (l : Line) : LineStart (pre ++ l.bytes) := by
  cases l <;> exact .inr (by simp [Line.bytes, markerLine, List.getLast?_cons])

theorem isMarker_of_hd {bytes pre hd rest : Bytes} {i : Nat} (h : At bytes i pre (hd ++ rest)) (h4 : 4 ≤ hd.length) (hm : isMarkerHd hd = true)
    (hp : LineStart pre) : isMarker bytes i = true := by
  match hd, h4 with
  | a :: b :: c :: d :: tl, _ =>
    have a2 : at' bytes (i + 2) = c := h.adv1.adv1.at'
    simp [isMarkerHd] at hm
    simp only [isMarker, h.at', h.adv1.at', a2, h.lineStart.mpr hp, startsAt, h.adv1.drop]
    simpa [hm.1] using hm.2.imp_right fun h => h.trans (List.prefix_append (b :: c :: d :: tl) rest)

/-- neither a line marker nor the distcc-pump banner starts at `i` (the two tests of `scan` that look at the line start) -/
def Plain (bytes : Bytes) (i : Nat) : Prop :=
  isMarker bytes i = false ∧ (startsAt bytes i underscores && (i == 0 || at' bytes (i - 1) == bNl)) = false

theorem plain_of_nl {bytes pre suf : Bytes} {i : Nat} (h : At bytes i pre (bNl :: suf)) : Plain bytes i := by
  simp [Plain, isMarker, h.at', startsAt, h.drop, underscores, bNl, bHash]

theorem plain_of_mid {bytes pre suf : Bytes} {i : Nat} (h : At bytes i pre suf) (hp : ¬ LineStart pre) : Plain bytes i := by
  have := mt h.lineStart.mp hp
  simp_all [Plain, isMarker]

/-- what a line hands to `remember_include_file`: the path of a marker, unless it is empty -/
def Line.rem (cfg : Cfg) (fs : Bytes → FileKind) (cwd input : Bytes) (known : List Bytes) : Line → Remember
  | .marker _ path flags => if path = [] then .ok none else remember cfg fs cwd input known (normalizedText path) (flags.contains b3)
  | .other _ => .ok none

/-- the recorder on lines: `remember_include_file` on each marker with a file name, in order; `none`: direct mode goes off -/
def recL (cfg : Cfg) (fs : Bytes → FileKind) (cwd input : Bytes) : List Bytes → List Line → Option (List Bytes)
  | known, [] => some known
  | known, l :: ls => match l.rem cfg fs cwd input known with
    | .ok o => recL cfg fs cwd input (known ++ o.toList) ls
    | .disable => none

/-- A scan from `i` ends with direct mode on and `rec` recorded.  The fuel is enough if it covers the bytes that are left: every
    step uses one unit and advances; `hashStart` matters only on the GCC-6 lines that `WF` rules out.  Neither shows below:
    a lemma about a step of `scan` unpacks `Scans`, rewrites with `scan`, and packs the fuel that is left again
    (`Scans.plain` is the pattern). -/
def Scans (cfg : Cfg) (fs : Bytes → FileKind) (cwd input bytes : Bytes) (known : List Bytes) (i : Nat) (rec : List Bytes) : Prop :=
  ∃ fuel hs, bytes.length ≤ i + fuel ∧ scan cfg fs cwd input fuel bytes known i hs = .ok true rec

section Sound
variable {cfg : Cfg} {fs : Bytes → FileKind} {cwd input : Bytes}

theorem scan_short {bytes : Bytes} {known : List Bytes} {i fuel hs : Nat} (h : bytes.length ≤ i + 7) :
    scan cfg fs cwd input fuel bytes known i hs = .ok true known := by
  cases fuel with
  | zero => rfl
  | succ n => rw [scan, if_pos (by simp; omega)]

theorem scans_short {bytes : Bytes} {known rec : List Bytes} {i : Nat} (h : bytes.length ≤ i + 7) :
    Scans cfg fs cwd input bytes known i rec ↔ rec = known := by
  constructor
  · rintro ⟨fuel, hs, -, hscan⟩
    rw [scan_short h] at hscan
    cases hscan
    rfl
  · rintro rfl
    exact ⟨bytes.length, 0, by omega, scan_short h⟩

theorem Scans.plain {bytes : Bytes} {known rec : List Bytes} {i : Nat} (h : Plain bytes i) (hscan : Scans cfg fs cwd input bytes known i rec) :
    Scans cfg fs cwd input bytes known (i + 1) rec := by
  by_cases hlong : i + 7 < bytes.length
  · obtain ⟨fuel, hs, hf, hscan⟩ := hscan
    obtain ⟨fuel, rfl⟩ : ∃ f, fuel = f + 1 := ⟨fuel - 1, by omega⟩
    rw [scan, h.1, h.2, if_neg (by simp; omega)] at hscan
    -- `.incbin` here would have switched direct mode off
    cases hi : isIncbin bytes i with
    | true => simp [hi] at hscan
    | false => exact ⟨fuel, hs, by omega, by simpa [hi] using hscan⟩
  · -- too near the end at `i`, hence at `i + 1`: both scans stop with `known`
    rw [scans_short (by omega)] at hscan ⊢
    exact hscan

/-- a line without newline is stepped over byte by byte if its first position is plain: the later ones are not at a line start -/
theorem Scans.rest_of_line {bytes post : Bytes} {known rec : List Bytes} : ∀ {r pre : Bytes} {i : Nat}, At bytes i pre (r ++ bNl :: post) →
    (∀ b ∈ r, b ≠ bNl) → (r ≠ [] → Plain bytes i) → Scans cfg fs cwd input bytes known i rec → Scans cfg fs cwd input bytes known (i + r.length + 1) rec
  | [], _, _, h, _, _, hscan => hscan.plain (plain_of_nl h)
  | c :: r, pre, i, h, hr, hpl, hscan => by
    have := (hscan.plain (hpl (by simp))).rest_of_line h.adv1 (fun b hb => hr b (by simp [hb]))
      (fun _ => plain_of_mid h.adv1 (not_lineStart_append pre [c] (by simp) (by simpa using hr c)))
    rwa [Nat.add_assoc _ 1, Nat.add_comm 1] at this

theorem Covered.mono {rec rec' : List Bytes} {path flags : Bytes} (h : Covered cfg fs cwd input rec path flags) (hsub : ∀ k ∈ rec, k ∈ rec') :
    Covered cfg fs cwd input rec' path flags :=
  h.imp_right (Or.imp_right (Or.imp_left (hsub _)))

theorem remember_covered {known : List Bytes} {path flags : Bytes} {o : Option Bytes}
    (h : remember cfg fs cwd input known (normalizedText path) (flags.contains b3) = .ok o) :
    Covered cfg fs cwd input (known ++ o.toList) path flags := by
  rcases remember_ok h with rfl | ⟨rfl, h'⟩
  · exact .inr (.inr (.inl (by simp)))
  · simpa [Covered] using h'

theorem recL_covered {rec : List Bytes} : ∀ (ls : List Line) {known : List Bytes}, recL cfg fs cwd input known ls = some rec →
    (∀ k ∈ known, k ∈ rec) ∧ ∀ hd path flags, Line.marker hd path flags ∈ ls → path ≠ [] → Covered cfg fs cwd input rec path flags
  | [], _, h => by cases h; exact ⟨fun _ hk => hk, nofun⟩
  | l :: ls, known, h => by
    rw [recL] at h
    cases ho : l.rem cfg fs cwd input known with
    | disable => simp [ho] at h
    | ok o =>
      have ih := recL_covered ls (by simpa [ho] using h)
      refine ⟨fun k hk => ih.1 k (by simp [hk]), fun hd path flags hm hp => ?_⟩
      rcases List.mem_cons.mp hm with rfl | e
      · exact (remember_covered (by simpa [Line.rem, hp] using ho)).mono ih.1
      · exact ih.2 hd path flags e hp

/-- One line, from its start to the start of the next.  The first step depends on the kind of line and leaves the cursor
    inside the line (or, after the banner, at the next one); from there to the newline nothing can happen
    (`Scans.rest_of_line`).  Within seven bytes of the end the scan stops: that is too short for a marker with a file name. -/
theorem scan_line {l : Line} {bytes pre post : Bytes} {known rec : List Bytes} {i : Nat}
    (h : At bytes i pre (l.bytes ++ post)) (hp : LineStart pre) (hok : l.ok)
    (h31 : startsAt bytes i hash31 = false) (h32 : startsAt bytes i hash32 = false)
    (hnoq : ∀ body, l = .other body → isMarker bytes i = true → ∀ b ∈ body, b ≠ bQuote)
    (hscan : Scans cfg fs cwd input bytes known i rec) :
    ∃ o, l.rem cfg fs cwd input known = .ok o ∧ Scans cfg fs cwd input bytes (known ++ o.toList) (i + l.bytes.length) rec := by
  have hlen := h.length
  rw [List.length_append] at hlen
  by_cases hlong : i + 7 < bytes.length
  case neg =>
    rw [scans_short (by omega)] at hscan
    refine ⟨none, ?_, by simpa [hscan] using (scans_short (by omega)).mpr rfl⟩
    cases l with
    | other body => rfl
    | marker hd path flags =>
      rw [Line.bytes, markerLine_length] at hlen
      have : path = [] := List.length_eq_zero_iff.mp (by have := hok.1; omega)
      simp [Line.rem, this]
  -- once the cursor is inside the line, before `r` and the newline, the rest of the line is stepped over
  have finish : ∀ {pre' r : Bytes} {j : Nat} {known' : List Bytes}, At bytes j pre' (r ++ bNl :: post) → (∀ b ∈ r, b ≠ bNl) →
      (r ≠ [] → Plain bytes j) → Scans cfg fs cwd input bytes known' j rec → Scans cfg fs cwd input bytes known' (i + l.bytes.length) rec := by
    intro pre' r j known' hj hr hpl hscan
    have e : j + r.length + 1 = i + l.bytes.length := by have := hj.length; simp at this; omega
    exact e ▸ hscan.rest_of_line hj hr hpl
  have hstart := hscan
  obtain ⟨fuel, hs, hf, hscan⟩ := hscan
  obtain ⟨fuel, rfl⟩ : ∃ f, fuel = f + 1 := ⟨fuel - 1, by omega⟩
  rw [scan, if_neg (by simp; omega)] at hscan
  cases l with
  | marker hd path flags =>
    obtain ⟨h4, hmk, hhd, hpath, hflags⟩ := hok
    have h : At bytes i pre (hd ++ bQuote :: (path ++ bQuote :: (flags ++ bNl :: post))) := by simpa [Line.bytes, markerLine] using h
    rw [isMarker_of_hd h h4 hmk hp, if_pos rfl, processLine_quoted h hhd (fun b hb => (hpath b hb).1) hflags h31 h32] at hscan
    have hq := h.adv.adv1.adv       -- at the closing quote, where the scan goes on
    have hpl := plain_of_mid hq
      (by simpa using not_lineStart_append (pre ++ hd) (bQuote :: path) (by simp) (by simpa [bQuote, bNl] using fun b hb => (hpath b hb).2))
    have hfl : ∀ b ∈ bQuote :: flags, b ≠ bNl := by simpa [bQuote, bNl] using hflags
    unfold Line.rem
    by_cases hpe : path = []
    · exact ⟨none, by simp [hpe], finish hq hfl (fun _ => hpl) ⟨fuel, _, by omega, by simpa [hpe] using hscan⟩⟩
    · simp only [hpe] at hscan ⊢
      cases hr : remember cfg fs cwd input known (normalizedText path) (flags.contains b3) with
      | disable => rw [hr] at hscan; cases hscan
      | ok o => exact ⟨o, rfl, finish hq hfl (fun _ => hpl) ⟨fuel, _, by omega, by rwa [hr] at hscan⟩⟩
  | other body =>
    have hok : ∀ b ∈ body, b ≠ bNl := hok
    have h : At bytes i pre (body ++ bNl :: post) := by simpa [Line.bytes] using h
    simp only [Line.bytes, List.length_append, List.length_cons] at hlen
    refine ⟨none, rfl, ?_⟩
    rw [Option.toList_none, List.append_nil]
    cases hmk : isMarker bytes i with
    | true =>
      -- it looks like a marker, so it holds no quote and `processLine` gives up at its newline
      have hq : ∀ b ∈ body, b ≠ bQuote ∧ b ≠ bNl := fun b hb => ⟨hnoq body rfl hmk b hb, hok b hb⟩
      rw [hmk, if_pos rfl, processLine_noquote h hq h31 h32] at hscan
      have hne : body ≠ [] := by
        rintro rfl
        simp [(plain_of_nl h).1] at hmk
      have := List.length_pos_iff.mpr hne
      exact finish (r := []) h.adv nofun (fun h => absurd rfl h) ⟨fuel, hs, by omega, hscan⟩
    | false =>
      by_cases hban : (startsAt bytes i underscores && (i == 0 || at' bytes (i - 1) == bNl)) = true
      · -- the distcc-pump banner: the scanner jumps to the next line
        have s1 : skipUntil bytes [bNl] (bytes.length + 1) i = i + body.length :=
          h.skipUntil (by simp) (by simpa using hok) (by omega)
        cases hinc : isIncbin bytes i with
        | true => simp [hmk, hinc] at hscan
        | false =>
          simp only [hmk, hinc, hban, s1,
            if_neg (show ¬ i + body.length ≥ bytes.length by omega)] at hscan
          exact ⟨fuel, _, by simp [Line.bytes]; omega, by simpa [Line.bytes, Nat.add_assoc] using hscan⟩
      · exact finish h hok (fun _ => ⟨hmk, by simpa using hban⟩) hstart

theorem scan_lines {rec : List Bytes} : ∀ (ls : List Line) {pre bytes : Bytes} {i : Nat} {known : List Bytes}, At bytes i pre (textOf ls) → LineStart pre →
    WF pre ls → Scans cfg fs cwd input bytes known i rec → recL cfg fs cwd input known ls = some rec
  | [], _, _, _, known, h, _, _, hscan => by
    rw [(scans_short (by simp [h.length, textOf])).mp hscan]
    rfl
  | l :: ls, pre, _, _, known, ⟨rfl, rfl⟩, hp, ⟨hok, h31, h32, hnoq, hwf⟩, hscan => by
    have h : At (pre ++ textOf (l :: ls)) pre.length pre (l.bytes ++ textOf ls) := ⟨rfl, rfl⟩
    obtain ⟨o, ho, hscan'⟩ := scan_line h hp hok h31 h32 hnoq hscan
    rw [recL, ho]
    exact scan_lines ls h.adv (lineStart_line pre l) hwf hscan'

end Sound

variable (cfg : Cfg) (fs : Bytes → FileKind) (cwd input : Bytes) in
/-- C04 `recorder_sound`: if `process_preprocessed_file` leaves direct mode on, the file of every line marker is recorded or
    excluded for a documented reason (`Covered`) -/
theorem recorder_sound (ls : List Line) (hwf : WF [] ls) (rec : List Bytes)
    (h : processPreprocessedFile cfg fs cwd input (textOf ls) = .ok true rec) :
    ∀ hd path flags, Line.marker hd path flags ∈ ls → path ≠ [] → Covered cfg fs cwd input rec path flags :=
  (recL_covered ls (scan_lines ls ⟨rfl, rfl⟩ (Or.inl rfl) hwf ⟨_, 0, by simp; omega, h⟩)).2

theorem foldl_normStep_plain (abs : Bool) : ∀ (cs st : List Bytes), (∀ c ∈ cs, c ≠ dotdot ∧ c ≠ [bDot]) → cs.foldl (normStep abs) st = st ++ cs := by
  intro cs
  induction cs with
  | nil => intro st _; simp
  | cons c cs ih =>
    intro st h
    have hc := h c (by simp)
    have h1 : (c == [bDot]) = false := by simpa using hc.2
    have h2 : (c == dotdot) = false := by simpa using hc.1
    simp only [List.foldl_cons, normStep, h1, h2, Bool.false_eq_true, if_false]
    rw [ih (st ++ [c]) (fun c' hc' => h c' (by simp [hc']))]
    simp

theorem normalizedText_plain (raw : Bytes) (h : ∀ c ∈ rustComps raw, c ≠ dotdot ∧ c ≠ [bDot]) : normalizedText raw = raw := by
  unfold normalizedText normalizedTextWith normCompsWith
  rw [foldl_normStep_plain (isAbs raw) (rustComps raw) [] h]
  simp

/-! non-vacuity: a three-line text over a small world, well-formed, direct mode stays on, both headers recorded
    (`../inc/b.h` under its own spelling `<cwd>/../inc/b.h`) -/
def exWorld : List (List Bytes × FileKind) :=
  [([sb [112]], .dir), ([sb [112], sb [115]], .dir), ([sb [112], sb [105]], .dir),
   ([sb [112], sb [115], sb [97, 46, 104]], .file false false false), ([sb [112], sb [105], sb [98, 46, 104]], .file false false false),
   ([sb [112], sb [115], sb [109, 46, 99]], .file false false false)]
def exLines : List Line :=
  [.marker (sb [35, 32, 49, 32]) (sb [97, 46, 104]) [], .other (sb [105, 110, 116, 32, 120, 59]),
   .marker (sb [35, 32, 55, 32]) (sb [46, 46, 47, 105, 47, 98, 46, 104]) (sb [32, 49])]

theorem exLines_wf : WF [] exLines :=
  ⟨⟨by decide, by decide, by decide, by decide, by decide⟩, by decide, by decide, nofun,
   (by decide : ∀ b ∈ sb [105, 110, 116, 32, 120, 59], b ≠ bNl), by decide, by decide, fun _ _ hm => absurd hm (by decide),
   ⟨by decide, by decide, by decide, by decide, by decide⟩, by decide, by decide, nofun, trivial⟩

theorem exLines_result :
    processPreprocessedFile ⟨true, false⟩ (fsOf exWorld) (sb [47, 112, 47, 115]) (sb [47, 112, 47, 115, 47, 109, 46, 99]) (textOf exLines)
      = .ok true [sb [47, 112, 47, 115, 47, 97, 46, 104], sb [47, 112, 47, 115, 47, 46, 46, 47, 105, 47, 98, 46, 104]] := by decide

end RecM
