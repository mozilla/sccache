import SccacheModel.Model.ServerL1

/-! What C01, C09 and C15 need of `decide1`, each by cases over its rows, and of the preprocessor-cache section:
    the pinned code leaves `generate_hash_key` with an error on an entry that does not decode (F-C09-a), the
    repaired code on none. -/
namespace L1

/-- C09 `storage_fault_total`: whatever the cache does on lookup and on store, a request whose hash and compile steps work gets
    the compiler's own result -/
theorem storage_fault_total (i : In) (hh : i.hash = .ok) (hc : i.compile ≠ .spawnErr) (hp : i.pack = true)
    (hl : i.lookup ≠ .hit ∨ i.extract = .decompressionFailure) :
    ∃ ok, (decide1 i).reply = .compilerResult ok ∧ (decide1 i).ranCompiler = true := by
  fun_cases decide1 i <;> simp_all

theorem stored_only_success (i : In) (h : (decide1 i).storeIssued = true) :
    (decide1 i).reply = .compilerResult true ∧ (decide1 i).ranCompiler = true := by
  revert h
  fun_cases decide1 i <;> simp

theorem failed_not_stored (i : In) (h : (decide1 i).reply = .compilerResult false) : (decide1 i).storeIssued = false := by
  cases hs : (decide1 i).storeIssued
  · rfl
  · rw [(stored_only_success i hs).1] at h; cases h

theorem hit_runs_nothing (i : In) (h : (decide1 i).reply = .cachedResult) :
    (decide1 i).ranCompiler = false ∧ (decide1 i).storeIssued = false ∧ i.control = .default ∧ i.lookup = .hit := by
  revert h
  fun_cases decide1 i <;> simp
  -- left: the one row that replies from the cache, under its own condition
  next hrow => simp_all

theorem store_outcome_irrelevant (i : In) (b : Bool) : decide1 { i with storeOk := b } = decide1 i := rfl

/-- F-C09-a: a preprocessor-cache file that does not decode makes the request fatal -/
theorem ppsection_garbage_witness : ppSectionPinned true true .undecodable true = .propagateError := rfl

theorem ppSectionPinned_propagates (u c : Bool) (e : PEntry) (p : Bool) (h : ppSectionPinned u c e p = .propagateError) :
    e = .undecodable ∨ e = .readError := by
  revert h
  fun_cases ppSectionPinned u c e p <;> simp

theorem ppsection_fixed_total (u c : Bool) (e : PEntry) (p : Bool) : ppSectionFixed u c e p ≠ .propagateError := by
  intro h
  unfold ppSectionFixed at h
  split at h
  -- an entry that does not decode or cannot be read is treated as `.absent`
  case h_1 | h_2 => exact (ppSectionPinned_propagates _ _ _ _ h).elim nofun nofun
  case h_3 hu hr => exact (ppSectionPinned_propagates _ _ _ _ h).elim hu hr

end L1
