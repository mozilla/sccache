import SccacheModel.Proofs.Lru

namespace LruM

/-! Read-only use of the disk cache (C15, and the restart half of C03) on the model `Model/Lru.lean`: the only operations a
    read-only `DiskCache` performs are the lazy `init` (`reopen`) and `get`; a start-up scan of a directory that fits evicts
    nothing (`reopen_fit`), and a lookup never touches the files. -/
namespace Lru

theorem scan_fit (acc : Lru) (k : Key) (n : Nat) (h : acc.size + n ≤ acc.cap) :
    scan acc (k, n) = { acc with entries := eraseKey acc.entries k ++ [(k, n)] } := by
  have hn : ¬ n > acc.cap := by omega
  simp only [size] at h
  simp only [scan, hn, if_false, addFile, makeSpace_fit acc n h, lruInsert_eq acc k n (by omega)]

/-- `entries`: the order given, a key listed twice keeping its last place -/
theorem reopen_fit (c : Lru) (order : List (Key × Nat)) (hfit : (order.map (·.2)).sum ≤ c.cap) :
    c.reopen order = { cap := c.cap, files := order, nextHandle := c.nextHandle,
                       entries := order.foldl (fun es kn => eraseKey es kn.1 ++ [kn]) [] } := by
  have key : ∀ (l : List (Key × Nat)) (acc : Lru), acc.pendingSize = 0 → acc.lruSize + (l.map (·.2)).sum ≤ acc.cap →
      l.foldl scan acc = { acc with entries := l.foldl (fun es kn => eraseKey es kn.1 ++ [kn]) acc.entries } := by
    intro l
    induction l with
    | nil => exact fun _ _ _ => rfl
    | cons kn l ih =>
      intro acc hp hs
      obtain ⟨k, n⟩ := kn
      simp only [List.map_cons, List.sum_cons] at hs
      have := sum_replace_le acc.entries k n
      rw [List.foldl_cons, scan_fit acc k n (by simp only [size]; omega),
        ih { acc with entries := eraseKey acc.entries k ++ [(k, n)] } hp]
      · rfl
      · simp only [lruSize] at *
        omega
  rw [reopen_eq, key order _ rfl (by show 0 + _ ≤ c.cap; omega)]

/-- C15 `reopen_keeps_files_partial`, C03 `reopen_preserves`: opening a directory whose files fit the size limit deletes nothing -/
theorem reopen_keeps_files (c : Lru) (order : List (Key × Nat)) (hfit : (order.map (·.2)).sum ≤ c.cap) :
    (c.reopen order).files = order := by
  rw [reopen_fit c order hfit]

theorem get_keeps_files (c : Lru) (k : Key) : (c.get k).1.files = c.files := by
  fun_cases get c k <;> rfl

/-- the read-write start-up scan (intended): a pre-populated directory larger than the size limit loses its oldest entry -/
theorem reopen_evicts_witness : (({ cap := 15 } : Lru).reopen [(1, 10), (2, 10)]).files = [(2, 10)] := by decide

theorem openReadOnly_keeps_files (c : Lru) (order : List (Key × Nat)) (h64 : (order.map (·.2)).sum ≤ u64Max) :
    (c.openReadOnly order).files = order :=
  reopen_keeps_files _ order h64

theorem readOnly_session_keeps_files (c : Lru) (order : List (Key × Nat)) (ks : List Key) (h64 : (order.map (·.2)).sum ≤ u64Max) :
    (ks.foldl (fun acc k => (acc.get k).1) (c.openReadOnly order)).files = order :=
  List.foldlRecOn (motive := fun a => a.files = order) ks _ (openReadOnly_keeps_files c order h64)
    fun acc h k _ => (get_keeps_files acc k).trans h

end Lru

end LruM
