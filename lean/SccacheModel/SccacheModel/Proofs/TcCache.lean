import SccacheModel.Model.TcCache

/-! C17 `tc_sound`: every step of the repaired code keeps `TcSound`; on the pinned code a mismatching upload
    breaks it (F-C17-a). -/
namespace TcM

theorem TcSound.supd {s : Store} (h : TcSound s) (k : Nat) (v : Option Nat) (hv : ∀ d, v = some d → d = k) :
    TcSound (supd s k v) := by
  intro id d hd
  simp only [TcM.supd] at hd
  split at hd
  next e => exact e ▸ hv d hd
  next => exact h id d hd

theorem tc_step_fixed (s : Store) (h : TcSound s) (op : TcOp) : TcSound (tcStepFixed s op) := by
  cases op with
  | insertWith i c =>
    simp only [tcStepFixed]; split
    next e => exact h.supd i _ fun d hd => by cases hd; exact e
    next => exact h.supd i _ nofun
  | insertFile c => exact h.supd c _ fun d hd => by cases hd; rfl
  | remove i => exact h.supd i _ nofun
  | evict i => exact h.supd i _ nofun
  | reopen => exact h

/-- C17 `tc_sound` (repaired code): after any history, whatever is present under an id has content whose digest is that id -/
theorem tc_sound (ops : List TcOp) : TcSound (ops.foldl tcStepFixed (fun _ => none)) :=
  List.foldlRecOn ops _ nofun fun s h op _ => tc_step_fixed s h op

/-- F-C17-a, kernel-checked: on the pinned code a mismatching upload leaves foreign content under the id -/
theorem tc_pinned_witness : ([TcOp.insertWith 1 2].foldl tcStepPinned (fun _ => none)) 1 = some 2 := by decide

end TcM
