import SccacheModel.Model.Sched
import SccacheModel.Gen.Consts

namespace SchedM

/-! C18 for the scheduler after the fix of F-C18-a (`allocRecordFixed`: record the job only if the chosen server still
    lists it): `WInv` is `SInv` together with what is known of the ghost set of allocations in flight; the frames
    (`WInv.setSrv`, `WInv.subJobs`) carry it through every handler, and `scheduler_consistent` is its run over any
    message sequence. -/
namespace Sched

/-- `cores_plus_slack` and `MAX_PER_CORE_LOAD` are what sccache-dist/main.rs says **now** (`Gen/Consts.lean` is regenerated on
    every run; the translator also checks the text of the formula and its `>=`) -/
theorem capacity_matches_source : (∀ c, capOf c = GenC.capOf c) ∧ GenC.maxPerCoreLoad = 2 := ⟨fun _ => rfl, rfl⟩

theorem findSrv_id {c : Sched} {s : Nat} {v : Srv} (h : c.findSrv s = some v) : v.id = s := by
  simpa using List.find?_some h

theorem findSrv_setSrv (c : Sched) (v : Srv) (s : Nat) :
    (c.setSrv v).findSrv s = if s = v.id then some v else c.findSrv s := by
  simp only [findSrv, setSrv]
  induction c.servers with
  | nil =>
    by_cases e : v.id = s
    · simp [e]
    · simp [e, Ne.symm e]
  | cons x xs ih => by_cases e1 : x.id = v.id <;> by_cases e2 : x.id = s <;> simp_all

theorem findSrv_jobs (c : Sched) (js : List Job) (s : Nat) : ({ c with jobs := js } : Sched).findSrv s = c.findSrv s := rfl

theorem setSrv_jobs (c : Sched) (v : Srv) : (c.setSrv v).jobs = c.jobs ∧ (c.setSrv v).jobCount = c.jobCount := ⟨rfl, rfl⟩

structure SInv (c : Sched) : Prop where
  attributed : ∀ job ∈ c.jobs, ∃ v, c.findSrv job.server = some v ∧ job.id ∈ v.assigned
  freshJobs : ∀ job ∈ c.jobs, job.id < c.jobCount
  capacity : ∀ s v, c.findSrv s = some v → v.assigned.length ≤ capOf v.cpus
  notPoisoned : c.poisoned = false

theorem sinv_init : SInv {} := ⟨nofun, nofun, by simp [findSrv], rfl⟩

/-- messages as the scheduler sees them; an allocation is three of them and anything may come in between -/
inductive WAct where
  | choose (s : Option Nat)
  | record (j s : Nat) (st : JState)
  | fail (j s : Nat)
  | heartbeat (s nonce cpus : Nat)
  | update (j s : Nat) (st : JState)

/-- run with the ghost set of allocations in flight (chosen, not yet recorded or failed) -/
def wstep (ci : Sched × List Nat) : WAct → Sched × List Nat
  | .choose s => let r := ci.1.allocChoose s; (r.1, ci.2 ++ r.2.2.toList)
  | .record j s st => if j ∈ ci.2 then ((ci.1.allocRecordFixed j s st).1, ci.2.erase j) else ci
  | .fail j s => if j ∈ ci.2 then ((ci.1.allocFail j s).1, ci.2.erase j) else ci
  | .heartbeat s n cp => ((ci.1.heartbeat s n cp).1, ci.2)
  | .update j s st => ((ci.1.update j s st).1, ci.2)

/-- an allocation in flight has an id below the counter that no recorded job carries -/
structure WInv (ci : Sched × List Nat) : Prop where
  sinv : SInv ci.1
  inflightFresh : ∀ j ∈ ci.2, j < ci.1.jobCount
  inflightNotRecorded : ∀ j ∈ ci.2, ∀ job ∈ ci.1.jobs, job.id ≠ j
  nodup : ci.2.Nodup

theorem winv_init : WInv (({} : Sched), []) := ⟨sinv_init, nofun, nofun, .nil⟩

theorem WInv.setSrv {c : Sched} {infl : List Nat} (w : WInv (c, infl)) (v' : Srv)
    (hkeep : ∀ v, c.findSrv v'.id = some v → ∀ job ∈ c.jobs, job.id ∈ v.assigned → job.id ∈ v'.assigned)
    (hcap : v'.assigned.length ≤ capOf v'.cpus) : WInv (c.setSrv v', infl) := by
  have h := w.sinv
  refine ⟨⟨fun job hj => ?_, h.freshJobs, fun s v hf => ?_, h.notPoisoned⟩, w.inflightFresh, w.inflightNotRecorded, w.nodup⟩
  · obtain ⟨v, hv, hm⟩ := h.attributed job hj
    rw [findSrv_setSrv]
    split
    next e => exact ⟨v', rfl, hkeep v (e ▸ hv) job hj hm⟩
    next => exact ⟨v, hv, hm⟩
  · rw [findSrv_setSrv] at hf
    split at hf
    · cases hf; exact hcap
    · exact h.capacity s v hf

theorem WInv.modSrv {c : Sched} {infl : List Nat} (w : WInv (c, infl)) {s : Nat} {v : Srv} (hf : c.findSrv s = some v) (v' : Srv) (hid : v'.id = v.id)
    (hkeep : ∀ job ∈ c.jobs, job.id ∈ v.assigned → job.id ∈ v'.assigned)
    (hcap : v'.assigned.length ≤ capOf v'.cpus) : WInv (c.setSrv v', infl) :=
  w.setSrv v' (fun v1 hv1 => by rw [hid, findSrv_id hf] at hv1; cases hf.symm.trans hv1; exact hkeep) hcap

theorem WInv.subJobs {c : Sched} {infl : List Nat} (w : WInv (c, infl)) (js : List Job)
    (hsub : ∀ x ∈ js, ∃ y ∈ c.jobs, y.id = x.id ∧ y.server = x.server) : WInv ({ c with jobs := js }, infl) :=
  ⟨⟨fun job hj => let ⟨y, hy, e1, e2⟩ := hsub job hj; e1 ▸ e2 ▸ w.sinv.attributed y hy,
    fun job hj => let ⟨y, hy, e1, _⟩ := hsub job hj; e1 ▸ w.sinv.freshJobs y hy, w.sinv.capacity, w.sinv.notPoisoned⟩,
   w.inflightFresh, fun j hj job hjob => let ⟨y, hy, e1, _⟩ := hsub job hjob; e1 ▸ w.inflightNotRecorded j hj y hy, w.nodup⟩

theorem WInv.filter {c : Sched} {infl : List Nat} (w : WInv (c, infl)) (p : Job → Bool) : WInv ({ c with jobs := c.jobs.filter p }, infl) :=
  w.subJobs _ fun x hx => ⟨x, (List.mem_filter.mp hx).1, rfl, rfl⟩

theorem WInv.setState {c : Sched} {infl : List Nat} (w : WInv (c, infl)) (j : Nat) (st : JState) :
    WInv ({ c with jobs := c.jobs.map fun x => if x.id == j then { x with state := st } else x }, infl) :=
  w.subJobs _ fun job' hj' => by
    obtain ⟨x, hx, rfl⟩ := List.mem_map.mp hj'
    exact ⟨x, hx, by split <;> exact ⟨rfl, rfl⟩⟩

theorem update_winv {c : Sched} {infl : List Nat} (w : WInv (c, infl)) (j s : Nat) (st : JState) :
    WInv ((c.update j s st).1, infl) ∧ (c.update j s st).2 ≠ .panic := by
  have h := w.sinv
  unfold update
  cases hfj : c.jobs.find? (·.id == j) with
  | none => exact ⟨w, nofun⟩
  | some job =>
    simp only
    have hjid : job.id = j := by simpa using List.find?_some hfj
    split
    · exact ⟨w, nofun⟩
    next hs =>
      obtain ⟨v0, hv0, hmem0⟩ := h.attributed job (List.mem_of_find?_eq_some hfj)
      obtain rfl : job.server = s := by simpa using hs
      split
      · exact ⟨w.setState j _, nofun⟩
      · -- ready → started: the server's `assigned` is untouched
        simp only [hv0]
        exact ⟨(w.modSrv hv0 { v0 with unclaimed := v0.unclaimed.erase j } rfl (fun _ _ hm => hm) (h.capacity _ v0 hv0)).setState j _, nofun⟩
      · -- started → complete: the job leaves `jobs` and the server's list together
        have w1 := w.filter (·.id != j)
        have hfs : ({ c with jobs := c.jobs.filter (·.id != j) } : Sched).findSrv job.server = some v0 := hv0
        have hcont : v0.assigned.contains j = true := by simpa [hjid] using hmem0
        simp only [hfs, hcont, if_true]
        refine ⟨w1.modSrv hfs { v0 with assigned := v0.assigned.erase j } rfl (fun job' hj' hm => ?_) ?_, nofun⟩
        · exact (List.mem_erase_of_ne (by simpa using (List.mem_filter.mp hj').2)).mpr hm
        · exact Nat.le_trans List.length_erase_le (h.capacity _ v0 hv0)
      · exact ⟨w, nofun⟩

theorem heartbeat_winv {c : Sched} {infl : List Nat} (w : WInv (c, infl)) (s nonce cpus : Nat) : WInv ((c.heartbeat s nonce cpus).1, infl) := by
  unfold heartbeat
  split
  · exact w
  · cases hf : c.findSrv s with
    | none => exact w.setSrv _ (fun v hv => by cases hf.symm.trans hv) (by simp)
    | some v =>
      simp only
      split
      · exact w
      · -- a fresh nonce: the jobs the old record listed are dropped with it
        refine (w.filter fun j => !v.assigned.contains j.id).modSrv hf _ (findSrv_id hf).symm (fun job hj hm => ?_) (by simp)
        simpa [hm] using (List.mem_filter.mp hj).2

theorem allocChoose_winv {c : Sched} {infl : List Nat} (w : WInv (c, infl)) (choice : Option Nat) :
    WInv ((c.allocChoose choice).1, infl ++ (c.allocChoose choice).2.2.toList) := by
  have h := w.sinv
  have w0 : WInv (c, infl ++ []) := by simpa using w
  unfold allocChoose
  cases choice with
  | none => simp only; split <;> exact w0
  | some s =>
    simp only
    split
    · exact w0
    · cases hf : c.findSrv s with
      | none => exact w0
      | some v =>
        simp only
        split
        · exact w0
        next hload =>
          -- the new id is the old counter: above every id in flight and every recorded id
          have wb : WInv ({ c with jobCount := c.jobCount + 1 }, infl ++ [c.jobCount]) :=
            ⟨⟨h.attributed, fun job hj => Nat.lt_succ_of_lt (h.freshJobs job hj), h.capacity, h.notPoisoned⟩,
             List.forall_mem_append.mpr ⟨fun j hj => Nat.lt_succ_of_lt (w.inflightFresh j hj), by simp⟩,
             List.forall_mem_append.mpr ⟨w.inflightNotRecorded, by simpa using fun job hj => Nat.ne_of_lt (h.freshJobs job hj)⟩,
             List.nodup_append.mpr ⟨w.nodup, by simp, fun a ha b hb =>
               by cases List.mem_singleton.mp hb; exact Nat.ne_of_lt (w.inflightFresh a ha)⟩⟩
          exact wb.modSrv hf { v with assigned := v.assigned ++ [c.jobCount], unclaimed := v.unclaimed ++ [c.jobCount] }
            rfl (fun _ _ hm => List.mem_append_left _ hm) (by simp [loadOk] at hload; simp; omega)

theorem WInv.erase {c : Sched} {infl : List Nat} (w : WInv (c, infl)) (j : Nat) : WInv (c, infl.erase j) :=
  ⟨w.sinv, fun j' hj' => w.inflightFresh j' (List.mem_of_mem_erase hj'),
   fun j' hj' => w.inflightNotRecorded j' (List.mem_of_mem_erase hj'), w.nodup.erase j⟩

theorem allocFail_winv {c : Sched} {infl : List Nat} (w : WInv (c, infl)) (j s : Nat) (hin : j ∈ infl) :
    WInv ((c.allocFail j s).1, infl.erase j) := by
  have h := w.sinv
  unfold allocFail
  have wb : WInv ({ c with clock := c.clock + 1 }, infl) :=
    ⟨⟨h.attributed, h.freshJobs, h.capacity, h.notPoisoned⟩, w.inflightFresh, w.inflightNotRecorded, w.nodup⟩
  cases hf : ({ c with clock := c.clock + 1 } : Sched).findSrv s with
  | none => simp only [hf]; exact wb.erase j
  | some v =>
    simp only [hf]
    exact (wb.modSrv hf { v with lastErr := some (c.clock + 1), unclaimed := v.unclaimed.erase j, assigned := v.assigned.erase j }
      rfl (fun job hj hm => (List.mem_erase_of_ne (w.inflightNotRecorded j hin job hj)).mpr hm)
      (Nat.le_trans List.length_erase_le (h.capacity s v hf))).erase j

theorem allocRecordFixed_winv {c : Sched} {infl : List Nat} (w : WInv (c, infl)) (j s : Nat) (st : JState) (hin : j ∈ infl) :
    WInv ((c.allocRecordFixed j s st).1, infl.erase j) := by
  have h := w.sinv
  have e := w.erase j
  unfold allocRecordFixed
  cases hf : c.findSrv s with
  | none => exact e
  | some v =>
    simp only
    split
    next hc =>
      -- the recorded id leaves the set in flight, where it occurred once
      simp only [Bool.and_eq_true] at hc
      refine ⟨⟨List.forall_mem_append.mpr ⟨h.attributed, List.forall_mem_singleton.mpr ⟨v, hf, by simpa using hc.1⟩⟩,
          List.forall_mem_append.mpr ⟨h.freshJobs, List.forall_mem_singleton.mpr (w.inflightFresh j hin)⟩, h.capacity, h.notPoisoned⟩,
        e.inflightFresh, fun j' hj' => ?_, e.nodup⟩
      exact List.forall_mem_append.mpr ⟨e.inflightNotRecorded j' hj',
        List.forall_mem_singleton.mpr fun e' => w.nodup.not_mem_erase (e' ▸ hj')⟩
    next => exact e

theorem winv_step (ci : Sched × List Nat) (w : WInv ci) (a : WAct) : WInv (wstep ci a) := by
  cases a with
  | choose s => exact allocChoose_winv w s
  | record j s st =>
    simp only [wstep]; split
    next hin => exact allocRecordFixed_winv w j s st hin
    next => exact w
  | fail j s =>
    simp only [wstep]; split
    next hin => exact allocFail_winv w j s hin
    next => exact w
  | heartbeat s n cp => exact heartbeat_winv w s n cp
  | update j s st => exact (update_winv w j s st).1

/-- C18 `scheduler_consistent` (for the repaired allocation handler): `SInv` after every sequence of messages, and no update panics -/
theorem scheduler_consistent (msgs : List WAct) :
    let ci := msgs.foldl wstep (({} : Sched), [])
    SInv ci.1 ∧ ∀ j s st, (ci.1.update j s st).2 ≠ .panic := by
  have hw : WInv (msgs.foldl wstep (({} : Sched), [])) := List.foldlRecOn msgs _ winv_init fun ci w a _ => winv_step ci w a
  exact ⟨hw.sinv, fun j s st => (update_winv hw j s st).2⟩

end Sched

#print axioms Sched.scheduler_consistent

end SchedM
