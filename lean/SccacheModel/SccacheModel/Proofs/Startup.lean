import SccacheModel.Model.Startup

/-! C20 `tcp_singleton`: with an exclusive bind, `TcpInv` holds in every interleaving of clients and servers; and the
    witness that the unrepaired Unix-socket bind leaves two servers serving (F-C20-a). -/
namespace StartupM

structure TcpInv (n : Net) : Prop where
  tcp : n.unixSocket = false
  boundServing : ∀ s : Nat, n.bound = some s → n.servers[s]? = some SrvState.serving
  onlyBound : ∀ s : Nat, n.servers[s]? = some SrvState.serving → n.bound = some s
  connectedToBound : ∀ s : Nat, CliState.connected s ∈ n.clients → n.bound = some s

theorem inv_init (k : Nat) : TcpInv (Net.init false k) :=
  ⟨rfl, nofun, by simp [Net.init], fun s h => by cases List.eq_of_mem_replicate h⟩

theorem TcpInv.setClient {n : Net} (h : TcpInv n) (c : Nat) (st : CliState) (hst : ∀ s, st = .connected s → n.bound = some s) :
    TcpInv { n with clients := n.clients.set c st } :=
  ⟨h.tcp, h.boundServing, h.onlyBound, fun s hm =>
    (List.mem_or_eq_of_mem_set hm).elim (h.connectedToBound s) fun e => hst s e.symm⟩

theorem inv_step (n : Net) (h : TcpInv n) (a : SAct) : TcpInv (sstep n a) := by
  cases a with
  | connect c =>
    simp only [sstep]
    split
    · split
      next b hb => exact h.setClient c _ fun s e => by cases e; exact hb
      next hb =>
        -- nothing is bound, so nothing is serving and nobody is connected; the new server is only starting
        refine ⟨h.tcp, fun s hs => (nomatch hb.symm.trans hs), fun s hs => ?_, fun s hm => ?_⟩
        · rw [List.getElem?_append] at hs
          split at hs
          · exact h.onlyBound s hs
          · rw [List.getElem?_singleton] at hs; split at hs <;> cases hs
        · exact (List.mem_or_eq_of_mem_set hm).elim (h.connectedToBound s) nofun
    · exact h
  | bind s =>
    simp only [sstep]
    split
    next hst =>
      have hlt : s < n.servers.length := by
        rcases Nat.lt_or_ge s n.servers.length with hl | hg
        · exact hl
        · rw [List.getElem?_eq_none hg] at hst; cases hst
      cases hb : n.bound with
      | none =>
        -- the address is free: `s` gets it, and nothing was serving or connected before
        have nothing : ∀ {s'}, n.bound ≠ some s' := fun e => by cases hb.symm.trans e
        rw [show bindOutcome n.unixSocket none s = (some s, .serving) by simp [bindOutcome]]
        refine ⟨h.tcp, fun s' hs' => by cases hs'; simp [hlt], fun s' hs' => ?_, fun s' hm => absurd (h.connectedToBound s' hm) nothing⟩
        rw [List.getElem?_set] at hs'
        split at hs'
        next e => rw [e]
        next => exact absurd (h.onlyBound s' hs') nothing
      | some b =>
        -- the address is taken: `s` exits, and `s ≠ b` since `b` is serving while `s` was starting
        rw [show bindOutcome n.unixSocket (some b) s = (some b, .exitedAddrInUse) by simp [bindOutcome, h.tcp]]
        refine ⟨h.tcp, fun s' hs' => ?_, fun s' hs' => ?_, fun s' hm => hb ▸ h.connectedToBound s' hm⟩
        · have := h.boundServing s' (hb ▸ hs')
          rw [List.getElem?_set]
          split
          next e => subst e; cases hst.symm.trans this
          next => exact this
        · rw [List.getElem?_set] at hs'
          split at hs'
          · cases hs'
          · exact hb ▸ h.onlyBound s' hs'
    next => exact h
  | notified c =>
    simp only [sstep]
    split
    · split
      · exact h
      next b _ hb => exact h.setClient c _ fun s e => by cases e; exact hb
      · exact h
    · exact h

theorem inv_run (as : List SAct) (n : Net) (h : TcpInv n) : TcpInv (srun n as) :=
  List.foldlRecOn as _ h fun n h a _ => inv_step n h a

/-- C20 `tcp_singleton`: two different servers are never serving at the same time -/
theorem tcp_singleton (k : Nat) (as : List SAct) (s1 s2 : Nat)
    (h1 : (srun (Net.init false k) as).servers[s1]? = some .serving)
    (h2 : (srun (Net.init false k) as).servers[s2]? = some .serving) : s1 = s2 := by
  have h := inv_run as _ (inv_init k)
  have e1 := h.onlyBound s1 h1
  have e2 := h.onlyBound s2 h2
  rw [e1] at e2
  exact Option.some.inj e2

/-- C20 negative result for the unrepaired Unix-socket bind (F-C20-a, fixed): two clients, both refused, both servers end up serving;
    the first one is unreachable but alive -/
theorem unix_second_server :
    let n := srun (Net.init true 2) [.connect 0, .connect 1, .bind 0, .bind 1]
    servingCount n = 2 ∧ n.bound = some 1 := by decide

#print axioms tcp_singleton

end StartupM
