import SccacheModel.Model.Key

namespace CK

/-! Injectivity of the `hash_key` pre-image in its components (C02).

After the fixed-width digest, the mode byte and the constants, the pre-image is a stream
`args* extras* envs* payload` with no counts and no separators between the lists.  Tokens of one kind
are prefix-free among themselves (`flatMap_append_inj`); what tells one kind from the next is read off a
few bytes of the head of a stream (`Head`): byte 7 is NUL exactly under a length prefix, a digest shows
64 hex bytes, the payload has no NUL at all. -/

theorem digits_inj {b : Nat} (hb : 0 < b) (w : Nat) : ∀ n m, n < b ^ w → m < b ^ w →
    (∀ i < w, n / b ^ i % b = m / b ^ i % b) → n = m := by
  induction w with
  | zero =>
    intro n m hn hm _
    rw [Nat.pow_zero, Nat.lt_one_iff] at hn hm
    rw [hn, hm]
  | succ w ih =>
    intro n m hn hm h
    rw [Nat.pow_succ, ← Nat.div_lt_iff_lt_mul hb] at hn hm
    have hd : n / b = m / b := ih _ _ hn hm fun i hi => by
      rw [Nat.div_div_eq_div_mul, Nat.div_div_eq_div_mul, ← Nat.pow_succ']
      exact h (i + 1) (Nat.succ_lt_succ hi)
    have h0 := h 0 (Nat.succ_pos w)
    rw [Nat.pow_zero, Nat.div_one, Nat.div_one] at h0
    rw [← Nat.div_add_mod n b, ← Nat.div_add_mod m b, hd, h0]

theorem le64_length (n : Nat) : (le64 n).length = 8 := by simp [le64]

theorem le64_getElem? (n : Nat) (X : Bytes) {i : Nat} (hi : i < 8) :
    (le64 n ++ X)[i]? = some (UInt8.ofNat (n / 256 ^ i % 256)) := by
  rw [List.getElem?_append_left (by rw [le64_length]; exact hi)]
  simp [le64, hi]

theorem le64_inj (n m : Nat) (hn : n < 2 ^ 64) (hm : m < 2 ^ 64) (h : le64 n = le64 m) : n = m := by
  refine digits_inj (b := 256) (by decide) 8 n m hn hm fun i hi => ?_
  have := congrArg UInt8.toNat (List.map_inj_left.mp h i (List.mem_range.mpr hi))
  simpa using this

theorem encArg_head_inj (a b X Y : Bytes) (ha : a.length < 2 ^ 64) (hb : b.length < 2 ^ 64)
    (h : encArg a ++ X = encArg b ++ Y) : a = b ∧ X = Y := by
  simp only [encArg, List.append_assoc] at h
  obtain ⟨h8, h⟩ := List.append_inj h (by rw [le64_length, le64_length])
  exact List.append_inj h (le64_inj _ _ ha hb h8)

theorem encArg_get0 (a X : Bytes) : (encArg a ++ X)[0]? = some (UInt8.ofNat (a.length % 256)) := by
  rw [encArg, List.append_assoc, le64_getElem? _ _ (by decide), Nat.pow_zero, Nat.div_one]

theorem encArg_get7 (a X : Bytes) (h : a.length < 2 ^ 56) : (encArg a ++ X)[7]? = some 0 := by
  rw [encArg, List.append_assoc, le64_getElem? _ _ (by decide), Nat.div_eq_of_lt (show a.length < 256 ^ 7 from h)]
  rfl

theorem encArg_get_add8 (a X : Bytes) (i : Nat) : (encArg a ++ X)[i + 8]? = (a ++ X)[i]? := by
  rw [encArg, List.append_assoc, List.getElem?_append_right (by rw [le64_length]; omega), le64_length,
    Nat.add_sub_cancel]

def envTok (kv : Bytes × Bytes) : Bytes := encArg kv.1 ++ [61] ++ encArg kv.2

-- what `WF` says of one argument, one extra-file digest, one variable, and of the payload
def ArgOK (a : Bytes) : Prop := a.length < 2 ^ 56 ∧ (0 : UInt8) ∉ a
def HexOK (e : Bytes) : Prop := e.length = 64 ∧ e.all isHexLower = true
def EnvOK (kv : Bytes × Bytes) : Prop := ArgOK kv.1 ∧ ArgOK kv.2
def PayOK (P : Bytes) : Prop := (0 : UInt8) ∉ P ∧ startsWith64Hex P = false

/-- how a stream begins: with a length-prefixed token, with a digest, or it is the payload `P` and nothing else -/
inductive Head (P S : Bytes) : Prop
  | tok (b X : Bytes) (hb : ArgOK b) (h : S = encArg b ++ X)
  | hex (e X : Bytes) (he : HexOK e) (h : S = e ++ X)
  | pay (hP : PayOK P) (h : S = P)

theorem nulfree_get (P : Bytes) (h : (0 : UInt8) ∉ P) (j : Nat) : P[j]? ≠ some 0 :=
  fun hc => h (List.mem_of_getElem? hc)

theorem HexOK.get {e : Bytes} (he : HexOK e) (X : Bytes) {j : Nat} (hj : j < 64) : (e ++ X)[j]? ≠ some 0 := by
  have hj : j < e.length := he.1 ▸ hj
  rw [List.getElem?_append_left hj, List.getElem?_eq_getElem hj]
  intro hc
  have hex := List.all_eq_true.mp he.2 _ (List.getElem_mem hj)
  rw [Option.some.inj hc] at hex
  exact absurd hex (by decide)

theorem HexOK.startsWith {e : Bytes} (he : HexOK e) (X : Bytes) : startsWith64Hex (e ++ X) = true := by
  simp [startsWith64Hex, he.1, he.2]

/-- no stream begins with `=` and a token: under a length prefix whose low byte is `=` there is a first byte, not NUL -/
theorem Head.not_eqTok {P S : Bytes} (h : Head P S) (v X : Bytes) (hv : v.length < 2 ^ 56) :
    S ≠ 61 :: (encArg v ++ X) := by
  intro hS
  have h8 : S[8]? = some 0 := by rw [hS, List.getElem?_cons_succ, encArg_get7 v X hv]
  cases h with
  | tok b Y hb h =>
    have h0 : S[0]? = some 61 := by rw [hS, List.getElem?_cons_zero]
    rw [h, encArg_get0] at h0
    have hpos : 0 < b.length := by
      apply Nat.pos_of_ne_zero
      intro hz
      rw [hz] at h0
      exact absurd h0 (by decide)
    rw [h, encArg_get_add8 b Y 0, List.getElem?_append_left hpos] at h8
    exact hb.2 (List.mem_of_getElem? h8)
  | hex e Y he h => exact he.get Y (by decide) (h ▸ h8)
  | pay hP h => exact nulfree_get _ hP.1 8 (h ▸ h8)

/-- Tokens of a prefix-free code followed by a tail of another kind can be read back. `stop` sees the rest of the
    stream because a tail may begin like a token (a variable begins with an argument token): what rules it out then
    is what comes after. -/
theorem flatMap_append_inj {α : Type} (enc : α → Bytes) (OK : α → Prop) (Tail : Bytes → Prop)
    (head : ∀ a b X Y, OK a → OK b → enc a ++ X = enc b ++ Y → a = b ∧ X = Y)
    (stop : ∀ a (l : List α) T T', OK a → (∀ x ∈ l, OK x) → Tail T → Tail T' → enc a ++ (l.flatMap enc ++ T) ≠ T')
    {l₁ l₂ : List α} {T₁ T₂ : Bytes} (h₁ : ∀ a ∈ l₁, OK a) (h₂ : ∀ a ∈ l₂, OK a) (t₁ : Tail T₁) (t₂ : Tail T₂)
    (h : l₁.flatMap enc ++ T₁ = l₂.flatMap enc ++ T₂) : l₁ = l₂ ∧ T₁ = T₂ := by
  induction l₁ generalizing l₂ with
  | nil =>
    cases l₂ with
    | nil => exact ⟨rfl, h⟩
    | cons b l₂ =>
      obtain ⟨hb, hl₂⟩ := List.forall_mem_cons.mp h₂
      rw [List.flatMap_cons, List.append_assoc] at h
      exact absurd h.symm (stop b l₂ T₂ T₁ hb hl₂ t₂ t₁)
  | cons a l₁ ih =>
    obtain ⟨ha, hl₁⟩ := List.forall_mem_cons.mp h₁
    rw [List.flatMap_cons, List.append_assoc] at h
    cases l₂ with
    | nil => exact absurd h (stop a l₁ T₁ T₂ ha hl₁ t₁ t₂)
    | cons b l₂ =>
      obtain ⟨hb, hl₂⟩ := List.forall_mem_cons.mp h₂
      rw [List.flatMap_cons, List.append_assoc] at h
      obtain ⟨rfl, h'⟩ := head a b _ _ ha hb h
      obtain ⟨rfl, hT⟩ := ih hl₁ hl₂ h'
      exact ⟨rfl, hT⟩

/-- what may follow the arguments (`ExtraTail`) and the extra digests (`EnvTail`) of a stream with payload `P` -/
def EnvTail (P T : Bytes) : Prop :=
  ∃ N : List (Bytes × Bytes), (∀ kv ∈ N, EnvOK kv) ∧ PayOK P ∧ T = N.flatMap envTok ++ P
def ExtraTail (P T : Bytes) : Prop :=
  ∃ (E : List Bytes) (T' : Bytes), (∀ e ∈ E, HexOK e) ∧ EnvTail P T' ∧ T = E.flatten ++ T'

theorem lt56_lt64 {n : Nat} (h : n < 2 ^ 56) : n < 2 ^ 64 := Nat.lt_trans h (by decide)

theorem EnvTail.head {P T : Bytes} (hT : EnvTail P T) : Head P T := by
  obtain ⟨N, hN, hP, rfl⟩ := hT
  cases N with
  | nil => exact .pay hP rfl
  | cons kv N =>
    refine .tok kv.1 ([61] ++ (encArg kv.2 ++ (N.flatMap envTok ++ P))) (hN kv List.mem_cons_self).1 ?_
    simp only [List.flatMap_cons, envTok, List.append_assoc]

theorem ExtraTail.head {P T : Bytes} (hT : ExtraTail P T) : Head P T := by
  obtain ⟨E, T', hE, hT', rfl⟩ := hT
  cases E with
  | nil => exact hT'.head
  | cons e E => exact .hex e (E.flatten ++ T') (hE e List.mem_cons_self) (List.append_assoc ..)

theorem ExtraTail.args_head {P T : Bytes} (hT : ExtraTail P T) {A : List Bytes} (hA : ∀ a ∈ A, ArgOK a) :
    Head P (A.flatMap encArg ++ T) := by
  cases A with
  | nil => exact hT.head
  | cons a A => exact .tok a (A.flatMap encArg ++ T) (hA a List.mem_cons_self) (List.append_assoc ..)

theorem env_peel {N₁ N₂ : List (Bytes × Bytes)} {P₁ P₂ : Bytes}
    (h₁ : ∀ kv ∈ N₁, EnvOK kv) (h₂ : ∀ kv ∈ N₂, EnvOK kv) (p₁ : PayOK P₁) (p₂ : PayOK P₂)
    (h : N₁.flatMap envTok ++ P₁ = N₂.flatMap envTok ++ P₂) : N₁ = N₂ ∧ P₁ = P₂ := by
  refine flatMap_append_inj envTok EnvOK PayOK ?_ ?_ h₁ h₂ p₁ p₂ h
  · intro a b X Y ha hb h
    simp only [envTok, List.append_assoc] at h
    obtain ⟨e₁, h⟩ := encArg_head_inj _ _ _ _ (lt56_lt64 ha.1.1) (lt56_lt64 hb.1.1) h
    obtain ⟨e₂, h⟩ := encArg_head_inj _ _ _ _ (lt56_lt64 ha.2.1) (lt56_lt64 hb.2.1) (List.append_cancel_left h)
    exact ⟨Prod.ext e₁ e₂, h⟩
  · intro a l T T' ha _ _ hT' h
    rw [envTok, List.append_assoc, List.append_assoc] at h
    exact nulfree_get T' hT'.1 7 (h ▸ encArg_get7 _ _ ha.1.1)

theorem extra_peel {E₁ E₂ : List Bytes} {T₁ T₂ P₁ P₂ : Bytes} (e₁ : ∀ e ∈ E₁, HexOK e) (e₂ : ∀ e ∈ E₂, HexOK e)
    (t₁ : EnvTail P₁ T₁) (t₂ : EnvTail P₂ T₂) (h : E₁.flatten ++ T₁ = E₂.flatten ++ T₂) : E₁ = E₂ ∧ T₁ = T₂ := by
  rw [← List.flatMap_id, ← List.flatMap_id] at h
  refine flatMap_append_inj id HexOK (fun T => ∃ P, EnvTail P T) ?_ ?_ e₁ e₂ ⟨P₁, t₁⟩ ⟨P₂, t₂⟩ h
  · intro a b X Y ha hb h
    exact List.append_inj h (ha.1.trans hb.1.symm)
  · intro e l T T' he _ _ ⟨P, N, hN, hP, hT'⟩ h
    rw [hT'] at h
    cases N with
    | nil =>
      have := he.startsWith (l.flatMap id ++ T)
      rw [show e ++ _ = _ from h] at this
      exact Bool.noConfusion (this.symm.trans hP.2)
    | cons kv N =>
      simp only [List.flatMap_cons, envTok, List.append_assoc] at h
      exact he.get _ (j := 7) (by decide) (show (e ++ _)[7]? = _ from h ▸ encArg_get7 _ _ (hN kv List.mem_cons_self).1.1)

theorem args_peel {A₁ A₂ : List Bytes} {T₁ T₂ P₁ P₂ : Bytes} (a₁ : ∀ a ∈ A₁, ArgOK a) (a₂ : ∀ a ∈ A₂, ArgOK a)
    (t₁ : ExtraTail P₁ T₁) (t₂ : ExtraTail P₂ T₂) (h : A₁.flatMap encArg ++ T₁ = A₂.flatMap encArg ++ T₂) :
    A₁ = A₂ ∧ T₁ = T₂ := by
  refine flatMap_append_inj encArg ArgOK (fun T => ∃ P, ExtraTail P T) ?_ ?_ a₁ a₂ ⟨P₁, t₁⟩ ⟨P₂, t₂⟩ h
  · intro a b X Y ha hb h
    exact encArg_head_inj a b X Y (lt56_lt64 ha.1) (lt56_lt64 hb.1) h
  · intro b l T T' hb hl ⟨_, hT⟩ hT' h
    have h7 := encArg_get7 b (l.flatMap encArg ++ T) hb.1
    rw [h] at h7
    obtain ⟨P, E, _, hE, ⟨N, hN, hP, rfl⟩, rfl⟩ := hT'
    cases E with
    | cons e E =>
      rw [List.flatten_cons, List.append_assoc] at h7
      exact (hE e List.mem_cons_self).get _ (by decide) h7
    | nil =>
      cases N with
      | nil => exact nulfree_get P hP.1 7 h7
      | cons kv N =>
        -- the other stream goes on with a variable: after its name it shows `=` and a token, which `l ++ T` cannot
        have hkv := hN kv List.mem_cons_self
        rw [List.flatten_nil, List.nil_append, List.flatMap_cons, envTok, List.append_assoc, List.append_assoc,
          List.append_assoc] at h
        obtain ⟨_, h⟩ := encArg_head_inj _ _ _ _ (lt56_lt64 hb.1) (lt56_lt64 hkv.1.1) h
        exact (hT.args_head hl).not_eqTok kv.2 _ hkv.2.1 h

/-- what follows the language tag -/
def body (allow : List Bytes) (r : CReq) : Bytes :=
  r.args.flatMap encArg ++ (r.extra.flatten ++ (encEnv allow r.env ++ r.pp))

theorem encEnv_eq (allow : List Bytes) (r : CReq) : encEnv allow r.env = (canonEnvG allow r).flatMap envTok := rfl

theorem WF.envOK {r : CReq} (w : WF r) (allow : List Bytes) : ∀ kv ∈ canonEnvG allow r, EnvOK kv := fun kv hkv =>
  have ⟨x1, x2, x3, x4⟩ := w.env kv (List.mem_filter.mp hkv).1
  ⟨⟨x1, x3⟩, ⟨x2, x4⟩⟩

theorem WF.payOK {r : CReq} (w : WF r) : PayOK r.pp := ⟨w.ppNul, w.ppHex⟩

theorem WF.envTail {r : CReq} (w : WF r) (allow : List Bytes) : EnvTail r.pp (encEnv allow r.env ++ r.pp) :=
  ⟨canonEnvG allow r, w.envOK allow, w.payOK, rfl⟩

theorem WF.extraTail {r : CReq} (w : WF r) (allow : List Bytes) :
    ExtraTail r.pp (r.extra.flatten ++ (encEnv allow r.env ++ r.pp)) :=
  ⟨r.extra, _, w.extra, w.envTail allow, rfl⟩

theorem WF.body_head {r : CReq} (w : WF r) (allow : List Bytes) : Head r.pp (body allow r) :=
  (w.extraTail allow).args_head w.args

theorem modeByte_inj : ∀ a b : Bool, (if a then (1 : UInt8) else 0) = (if b then 1 else 0) → a = b := by decide

theorem encGen_split (ver : Bytes) (allow : List Bytes) (r1 r2 : CReq) (w1 : WF r1) (w2 : WF r2)
    (h : encGen ver allow r1 = encGen ver allow r2) :
    r1.digest = r2.digest ∧ r1.plusplus = r2.plusplus ∧
      langTagBytes r1.lang ++ body allow r1 = langTagBytes r2.lang ++ body allow r2 := by
  simp only [encGen, List.append_assoc] at h
  obtain ⟨hd, h⟩ := List.append_inj h (w1.digest.1.trans w2.digest.1.symm)
  obtain ⟨hpp, h⟩ := List.cons.inj h
  exact ⟨hd, modeByte_inj _ _ hpp, List.append_cancel_left h⟩

theorem encGen_components_inj (ver : Bytes) (allow : List Bytes) (r1 r2 : CReq) (w1 : WF r1) (w2 : WF r2)
    (htag : langTagBytes r1.lang = langTagBytes r2.lang) (h : encGen ver allow r1 = encGen ver allow r2) :
    r1.digest = r2.digest ∧ r1.plusplus = r2.plusplus ∧ r1.args = r2.args ∧ r1.extra = r2.extra ∧
    canonEnvG allow r1 = canonEnvG allow r2 ∧ r1.pp = r2.pp := by
  obtain ⟨hd, hpp, h⟩ := encGen_split ver allow r1 r2 w1 w2 h
  rw [htag, List.append_cancel_left_eq] at h
  obtain ⟨hA, h⟩ := args_peel w1.args w2.args (w1.extraTail allow) (w2.extraTail allow) h
  obtain ⟨hE, h⟩ := extra_peel w1.extra w2.extra (w1.envTail allow) (w2.envTail allow) h
  obtain ⟨hN, hP⟩ := env_peel (w1.envOK allow) (w2.envOK allow) w1.payOK w2.payOK h
  exact ⟨hd, hpp, hA, hE, hN, hP⟩

theorem encGen_env_irrelevant (ver : Bytes) (allow : List Bytes) (r : CReq) (extra : List (Bytes × Bytes))
    (h : ∀ kv ∈ extra, kv.1 ∉ allow) : encGen ver allow { r with env := r.env ++ extra } = encGen ver allow r := by
  have : extra.filter (fun kv => allow.contains kv.1) = [] :=
    List.filter_eq_nil_iff.mpr fun kv hkv => by simpa using h kv hkv
  simp only [encGen, encEnv, List.filter_append, this, List.append_nil]

theorem encPre_eq_some {ign : Bool} {r : PReq} {b : Bytes} (h : encPre ign r = some b) :
    encGen [ppFormatVersion] ppCachedEnv r.toC = b := by
  unfold encPre at h
  split at h
  · cases h
  · exact Option.some.inj h

/-- C02 `encHash_components_inj`: equal pre-images of `c::hash_key` under one language tag force equal components -/
theorem encHash_components_inj : EncHashComponentsInj := by
  intro r1 r2 w1 w2 htag h
  exact encGen_components_inj cCacheVersion cCachedEnv r1 r2 w1 w2 htag h

#print axioms encHash_components_inj

end CK
