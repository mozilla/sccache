import SccacheModel.Model.Crc

namespace EntryM

/-! Each step of the CRC-32 register is injective in the register and in the byte fed in, so substituting one byte changes
    the checksum (`crc_single_byte`). -/

theorem P_top : P.getLsbD 31 = true := by decide

/-- the bit shifted out can be read off the top bit: `c >>> 1` has top bit 0 and `P` has top bit 1 -/
theorem bstep_bit31 (c : BitVec 32) : (bstep c).getLsbD 31 = c.getLsbD 0 := by
  unfold bstep
  rw [BitVec.getLsbD_xor, BitVec.getLsbD_ushiftRight, BitVec.getLsbD_of_ge c (1 + 31) (by omega), Bool.false_xor]
  cases c.getLsbD 0 with
  | true => exact P_top
  | false => rfl

theorem bstep_inj (a b : BitVec 32) (h : bstep a = bstep b) : a = b := by
  have h0 : a.getLsbD 0 = b.getLsbD 0 := by rw [← bstep_bit31, ← bstep_bit31, h]
  have hs : a >>> 1 = b >>> 1 := by
    unfold bstep at h
    rw [h0] at h
    exact (BitVec.xor_left_inj _).mp h
  apply BitVec.eq_of_getLsbD_eq
  intro i hi
  cases i with
  | zero => exact h0
  | succ j =>
    have := congrArg (fun v => v.getLsbD j) hs
    simp only [BitVec.getLsbD_ushiftRight] at this
    rw [Nat.add_comm 1 j] at this
    exact this

theorem bstep_ne_zero (c : BitVec 32) (h : c ≠ 0#32) : bstep c ≠ 0#32 := by
  intro hz
  have : bstep c = bstep 0#32 := by rw [hz]; decide
  exact h (bstep_inj _ _ this)

#print axioms bstep_inj

theorem step8_inj (a b : BitVec 32) (h : step8 a = step8 b) : a = b := by
  unfold step8 at h
  exact bstep_inj _ _ (bstep_inj _ _ (bstep_inj _ _ (bstep_inj _ _ (bstep_inj _ _ (bstep_inj _ _ (bstep_inj _ _ (bstep_inj _ _ h)))))))

theorem byteBV_inj (a b : UInt8) (h : byteBV a = byteBV b) : a = b := by
  have := congrArg BitVec.toNat h
  simp only [byteBV, BitVec.toNat_ofNat] at this
  have ha : a.toNat < 256 := a.toNat_lt
  have hb : b.toNat < 256 := b.toNat_lt
  exact UInt8.toNat_inj.mp (by omega)

theorem crcUpd_inj_state (s t : BitVec 32) (b : UInt8) (h : crcUpd s b = crcUpd t b) : s = t :=
  (BitVec.xor_left_inj _).mp (step8_inj _ _ h)

theorem crcUpd_inj_byte (s : BitVec 32) (a b : UInt8) (h : crcUpd s a = crcUpd s b) : a = b :=
  byteBV_inj _ _ ((BitVec.xor_right_inj _).mp (step8_inj _ _ h))

theorem foldl_crcUpd_inj (suf : List UInt8) (s t : BitVec 32) (h : suf.foldl crcUpd s = suf.foldl crcUpd t) : s = t := by
  induction suf generalizing s t with
  | nil => exact h
  | cons b bs ih => exact crcUpd_inj_state s t b (ih _ _ h)

theorem crc_single_byte (pre suf : List UInt8) (a b : UInt8) (hab : a ≠ b) :
    crcBV (pre ++ [a] ++ suf) ≠ crcBV (pre ++ [b] ++ suf) := by
  unfold crcBV
  intro h
  have h' := (BitVec.xor_left_inj _).mp h
  simp only [List.foldl_append] at h'
  exact hab (crcUpd_inj_byte _ a b (foldl_crcUpd_inj suf _ _ h'))

#print axioms crc_single_byte

end EntryM
