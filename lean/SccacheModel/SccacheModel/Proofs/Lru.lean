import SccacheModel.Model.Lru

namespace LruM

/-! The size-limit half of C07 (`size_limit`, `no_panic`, `oversize_refused`) on the model of `lru_disk_cache` after the fixes of
    F-C07-a/b: `make_space` in closed form (`evict`, `makeSpace_eq`) and the accounting invariant `Fits` through every operation. -/
namespace Lru

def reservedSum (c : Lru) : Nat := (c.temps.map (·.reserved)).sum

/-- index + reservations within capacity, and every live handle's reservation is still counted
    (so `pending_size -= size` never underflows); a poisoned cache is excused -/
def Acct (c : Lru) : Prop := c.poisoned = false → c.lruSize + c.pendingSize ≤ c.cap ∧ c.reservedSum ≤ c.pendingSize

theorem acct_of_poisoned (c : Lru) (h : c.poisoned = true) : Acct c := by
  intro hn; rw [h] at hn; cases hn

/-- `c` after its `m` least recently used entries have been evicted, files and all -/
def evict (c : Lru) (m : Nat) : Lru :=
  { c with entries := c.entries.drop m, files := (c.entries.take m).foldl (fun fs e => eraseKey fs e.1) c.files }

theorem evict_succ {c : Lru} {k sz : Nat} {rest : List (Key × Nat)} (he : c.entries = (k, sz) :: rest) (m : Nat) :
    c.evict (m + 1) = ({ c with entries := rest, files := eraseKey c.files k } : Lru).evict m := by
  simp only [evict, he, List.drop_succ_cons, List.take_succ_cons, List.foldl_cons]

/-- `make_space` refuses only when the reservations alone leave no room (whatever it evicted before finding that out stays evicted). -/
theorem makeSpaceFuel_eq (f : Nat) (c : Lru) (n : Nat) (hf : c.entries.length < f) : ∃ m,
    makeSpaceFuel f c n = (c.evict m, .ok) ∧ (c.evict m).lruSize + c.pendingSize + n ≤ c.cap ∨
    makeSpaceFuel f c n = (c.evict m, .tooLarge) ∧ c.cap < c.pendingSize + n := by
  fun_induction makeSpaceFuel f c n with
  | case1 => omega
  | case2 f c n hgt he => exact ⟨0, .inr ⟨rfl, by simpa [size, lruSize, he] using hgt⟩⟩
  | case3 f c n hgt k sz rest he ih =>
    obtain ⟨m, h⟩ := ih (by simp [he] at hf; simpa using hf)
    exact ⟨m + 1, by rw [evict_succ he]; exact h⟩
  | case4 f c n hle => exact ⟨0, .inl ⟨rfl, by show c.lruSize + c.pendingSize + n ≤ c.cap; simp only [size] at *; omega⟩⟩

theorem makeSpace_eq (c : Lru) (n : Nat) : ∃ m,
    c.makeSpace n = (c.evict m, .ok) ∧ (c.evict m).lruSize + c.pendingSize + n ≤ c.cap ∨
    c.makeSpace n = (c.evict m, .tooLarge) ∧ c.cap < c.pendingSize + n := by
  unfold makeSpace
  split
  · exact ⟨0, .inr ⟨rfl, by omega⟩⟩
  · exact makeSpaceFuel_eq _ c n (Nat.lt_succ_self _)

theorem makeSpace_evicts {c c' : Lru} {n : Nat} {r : Res} (h : c.makeSpace n = (c', r)) : ∃ m, c' = c.evict m := by
  obtain ⟨m, ⟨e, _⟩ | ⟨e, _⟩⟩ := makeSpace_eq c n <;> cases e.symm.trans h <;> exact ⟨m, rfl⟩

theorem makeSpace_fit (c : Lru) (n : Nat) (h : c.size + n ≤ c.cap) : c.makeSpace n = (c, .ok) := by
  have h1 : ¬ n > c.cap := by omega
  have h2 : ¬ c.size + n > c.cap := by omega
  simp only [makeSpace, makeSpaceFuel, h1, h2, if_false]

theorem sum_filter_le {α} (f : α → Nat) (q : α → Bool) (l : List α) : ((l.filter q).map f).sum ≤ (l.map f).sum := by
  have := ((List.filter_append_perm q l).map f).sum_nat
  simp only [List.map_append, List.sum_append] at this
  omega

theorem sum_filter_add_le {α} [BEq α] [LawfulBEq α] (f : α → Nat) (q : α → Bool) {l : List α} {a : α} (ha : a ∈ l) (hq : q a = false) :
    ((l.filter q).map f).sum + f a ≤ (l.map f).sum := by
  have p := List.perm_cons_erase ha
  have h1 := ((p.filter q).map f).sum_nat
  have h2 := (p.map f).sum_nat
  have := sum_filter_le f q (l.erase a)
  rw [List.filter_cons_of_neg (by simp [hq])] at h1
  rw [List.map_cons, List.sum_cons] at h2
  omega

theorem sum_eraseKey_le (es : List (Key × Nat)) (k : Key) : ((eraseKey es k).map (·.2)).sum ≤ (es.map (·.2)).sum :=
  sum_filter_le _ _ es

theorem sum_replace_le (es : List (Key × Nat)) (k : Key) (n : Nat) :
    ((eraseKey es k ++ [(k, n)]).map (·.2)).sum ≤ (es.map (·.2)).sum + n := by
  have := sum_eraseKey_le es k
  simp only [List.map_append, List.sum_append, List.map_cons, List.map_nil, List.sum_cons, List.sum_nil]; omega

theorem sum_move_le {es : List (Key × Nat)} {k : Key} {e : Key × Nat} (he : es.find? (·.1 == k) = some e) :
    ((eraseKey es k ++ [e]).map (·.2)).sum ≤ (es.map (·.2)).sum := by
  have := sum_filter_add_le (·.2) (·.1 != k) (List.mem_of_find?_eq_some he) (by simpa using List.find?_some he)
  simpa only [eraseKey, List.map_append, List.sum_append, List.map_cons, List.map_nil, List.sum_cons, List.sum_nil,
    Nat.add_zero] using this

theorem lruSize_evict_le (c : Lru) (m : Nat) : (c.evict m).lruSize ≤ c.lruSize := by
  have := congrArg (fun l => (l.map (·.2)).sum) (List.take_append_drop m c.entries)
  simp only [List.map_append, List.sum_append] at this
  simp only [lruSize, evict]; omega

/-- when the new entry fits, the trimming loop of `LruCache::insert` does nothing -/
theorem lruInsert_eq (c : Lru) (k : Key) (n : Nat) (h : c.lruSize + n ≤ c.cap) :
    c.lruInsert k n = { c with entries := eraseKey c.entries k ++ [(k, n)] } := by
  have hs : ¬ ((eraseKey c.entries k ++ [(k, n)]).map (·.2)).sum > c.cap := by
    have := sum_replace_le c.entries k n; simp only [lruSize] at h; omega
  simp only [lruInsert, List.length_append, List.length_cons, lruInsertFuel, hs, if_false]

theorem lruInsert_poisoned (c : Lru) (k : Key) (n : Nat) : (c.lruInsert k n).poisoned = c.poisoned := rfl

theorem get_none {c : Lru} {k : Key} (h : c.entries.find? (·.1 == k) = none) : c.get k = (c, .notInCache) := by
  unfold get; rw [h]

theorem get_some {c : Lru} {k : Key} {e : Key × Nat} (h : c.entries.find? (·.1 == k) = some e) :
    (c.get k).1 = { c with entries := eraseKey c.entries k ++ [e] } := by
  unfold get; rw [h]; simp only; split <;> rfl

theorem addFile_eq (c : Lru) (k : Key) (n : Nat) : ∃ m,
    c.addFile k n = ({ c.evict m with entries := eraseKey (c.entries.drop m) k ++ [(k, n)] }, .ok) ∧ (c.evict m).lruSize + c.pendingSize + n ≤ c.cap ∨
    c.addFile k n = (c.evict m, .tooLarge) ∧ c.cap < c.pendingSize + n := by
  unfold addFile
  obtain ⟨m, ⟨e, h⟩ | ⟨e, h⟩⟩ := makeSpace_eq c n
  · have hfit : (c.evict m).lruSize + n ≤ c.cap := by omega
    exact ⟨m, .inl ⟨by simp only [e, lruInsert_eq _ k n hfit]; rfl, h⟩⟩
  · exact ⟨m, .inr ⟨by simp only [e], h⟩⟩

/-- what every history keeps true, files deleted behind the cache's back and all: nothing has panicked, and the books balance -/
structure Fits (c : Lru) : Prop where
  np : c.poisoned = false
  size : c.lruSize + c.pendingSize ≤ c.cap
  reserved : c.reservedSum ≤ c.pendingSize

theorem Fits.acct {c : Lru} (h : Fits c) : Acct c := fun _ => ⟨h.size, h.reserved⟩

theorem fits_fresh (cap : Nat) (files : List (Key × Nat)) (nh : Nat) : Fits { cap := cap, files := files, nextHandle := nh } :=
  ⟨rfl, Nat.zero_le _, Nat.le_refl _⟩

/-- `c'` may differ from `c` in any field the invariant does not read (`files`, `pendingKeys`, `nextHandle`) -/
theorem Fits.mono {c c' : Lru} (h : Fits c) (h0 : c'.poisoned = c.poisoned) (h1 : c'.cap = c.cap) (h2 : c'.pendingSize = c.pendingSize)
    (h3 : c'.lruSize ≤ c.lruSize) (h4 : c'.reservedSum ≤ c.reservedSum) : Fits c' :=
  ⟨h0 ▸ h.np, by have := h.size; omega, by have := h.reserved; omega⟩

theorem Fits.evict {c : Lru} (h : Fits c) (m : Nat) : Fits (c.evict m) :=
  h.mono rfl rfl rfl (lruSize_evict_le c m) (Nat.le_refl _)

theorem addFile_fits (c : Lru) (k : Key) (n : Nat) (h : Fits c) : Fits (c.addFile k n).1 := by
  obtain ⟨m, ⟨e, hfit⟩ | ⟨e, _⟩⟩ := addFile_eq c k n <;> rw [e]
  · have := sum_replace_le (c.entries.drop m) k n
    exact ⟨h.np, by simp only [lruSize, evict] at hfit ⊢; omega, h.reserved⟩
  · exact h.evict m

theorem insertBytes_fits (c : Lru) (k : Key) (n : Nat) (h : Fits c) : Fits (c.insertBytes k n).1 := by
  have h1 := addFile_fits { c with files := eraseKey c.files k ++ [(k, n)], entries := eraseKey c.entries k } k n
    (h.mono rfl rfl rfl (sum_eraseKey_le c.entries k) (Nat.le_refl _))
  fun_cases insertBytes c k n
  next => exact h
  next hr => rwa [hr] at h1
  next hr =>
    rw [hr] at h1
    exact ⟨h1.np, h1.size, h1.reserved⟩

theorem prepareAdd_fits (c : Lru) (k : Key) (n : Nat) (h : Fits c) : Fits (c.prepareAdd k n).1 := by
  unfold prepareAdd
  obtain ⟨m, ⟨e, hfit⟩ | ⟨e, _⟩⟩ := makeSpace_eq c n <;> simp only [e]
  · have := h.reserved
    refine ⟨h.np, (by omega : (c.evict m).lruSize + (c.pendingSize + n) ≤ c.cap), ?_⟩
    simp only [reservedSum, List.map_append, List.sum_append] at this ⊢
    exact Nat.add_le_add_right this n
  · exact h.evict m

theorem write_fits (c : Lru) (h m : Nat) (hF : Fits c) : Fits (c.write h m) := by
  refine hF.mono rfl rfl rfl (Nat.le_refl _) (Nat.le_of_eq ?_)
  simp only [reservedSum, write, List.map_map]
  refine congrArg List.sum (List.map_congr_left fun p _ => ?_)
  simp only [Function.comp]
  split <;> rfl

theorem dropEntry_fits (c : Lru) (h : Nat) (hF : Fits c) : Fits (c.dropEntry h) :=
  hF.mono rfl rfl rfl (Nat.le_refl _) (sum_filter_le _ _ c.temps)

theorem reservedSum_dropEntry {c : Lru} {h : Nat} {p : Pend} (hf : c.temps.find? (·.handle == h) = some p) :
    (c.dropEntry h).reservedSum + p.reserved ≤ c.reservedSum :=
  sum_filter_add_le _ _ (List.mem_of_find?_eq_some hf) (by simpa using List.find?_some hf)

/-- `commit` in closed form. The entry is consumed as by a drop; a body larger than the whole cache is refused like a refusal of
    `make_space` that evicted nothing (`m = 0`); on success the whole entry fits, because its reservation was still counted. -/
theorem commit_eq (c : Lru) (h : Nat) (hF : Fits c) :
    c.commit h = (c, .ioErr) ∨ ∃ p m, c.temps.find? (·.handle == h) = some p ∧
      (c.commit h = ((c.dropEntry h).evict m, .tooLarge) ∨
       c.commit h = ({ (c.dropEntry h).evict m with
          pendingKeys := eraseFirst c.pendingKeys p.key, pendingSize := c.pendingSize - p.reserved,
          files := eraseKey (c.evict m).files p.key ++ [(p.key, p.written)],
          entries := eraseKey (c.entries.drop m) p.key ++ [(p.key, p.written)] }, .ok) ∧
        (c.evict m).lruSize + (c.pendingSize - p.reserved) + p.written ≤ c.cap) := by
  fun_cases commit c h
  next => exact .inl rfl
  next p hf _ _ => exact .inr ⟨p, 0, hf, .inl rfl⟩
  next p hf _ _ c' hm _ =>
    obtain ⟨m, ⟨e, hfit⟩ | ⟨e, _⟩⟩ := makeSpace_eq (c.dropEntry h) (p.written - p.reserved)
    · cases e.symm.trans hm
      have := reservedSum_dropEntry hf
      have := hF.reserved
      have hfit' : (c.evict m).lruSize + (c.pendingSize - p.reserved) + p.written ≤ c.cap := by
        change (c.evict m).lruSize + c.pendingSize + _ ≤ c.cap at hfit; omega
      refine .inr ⟨p, m, hf, .inr ⟨?_, hfit'⟩⟩
      rw [lruInsert_eq _ _ _ (by change (c.evict m).lruSize + _ ≤ c.cap; omega)]
      rfl
    · cases e.symm.trans hm
  next p hf _ _ hno =>
    obtain ⟨m, ⟨e, _⟩ | ⟨e, _⟩⟩ := makeSpace_eq (c.dropEntry h) (p.written - p.reserved)
    · exact (hno _ e).elim
    · exact .inr ⟨p, m, hf, .inl e⟩

theorem commit_fits (c : Lru) (h : Nat) (hF : Fits c) : Fits (c.commit h).1 := by
  obtain e | ⟨p, m, hf, e | ⟨e, hfit⟩⟩ := commit_eq c h hF <;> rw [e]
  · exact hF
  · exact (dropEntry_fits c h hF).evict m
  · have := reservedSum_dropEntry hf
    have := hF.reserved
    have := sum_replace_le (c.entries.drop m) p.key p.written
    refine ⟨hF.np, ?_, ?_⟩
    · simp only [lruSize, evict, dropEntry] at hfit ⊢
      omega
    · simp only [reservedSum, evict] at *
      omega

theorem get_fits (c : Lru) (k : Key) (hF : Fits c) : Fits (c.get k).1 := by
  cases he : c.entries.find? (·.1 == k) with
  | none => rw [get_none he]; exact hF
  | some e => rw [get_some he]; exact hF.mono rfl rfl rfl (sum_move_le he) (Nat.le_refl _)

theorem remove_fits (c : Lru) (k : Key) (hF : Fits c) : Fits (c.remove k).1 := by
  have h1 : Fits { c with entries := eraseKey c.entries k } :=
    hF.mono rfl rfl rfl (sum_eraseKey_le c.entries k) (Nat.le_refl _)
  fun_cases remove c k
  next => exact ⟨h1.np, h1.size, h1.reserved⟩
  next => exact h1
  next => exact hF

/-- one step of the start-up scan of `reopen` -/
def scan (acc : Lru) (kn : Key × Nat) : Lru :=
  if kn.2 > acc.cap then { acc with files := eraseKey acc.files kn.1 } else (acc.addFile kn.1 kn.2).1

theorem reopen_eq (c : Lru) (order : List (Key × Nat)) :
    c.reopen order = order.foldl scan { cap := c.cap, files := order, nextHandle := c.nextHandle } := rfl

theorem scan_fits (acc : Lru) (kn : Key × Nat) (h : Fits acc) : Fits (scan acc kn) := by
  unfold scan; split
  · exact ⟨h.np, h.size, h.reserved⟩   -- only `files` changes, which `Fits` does not read
  · exact addFile_fits acc kn.1 kn.2 h

theorem reopen_fits (c : Lru) (order : List (Key × Nat)) : Fits (c.reopen order) :=
  List.foldlRecOn order scan (fits_fresh c.cap order c.nextHandle) fun acc h kn _ => scan_fits acc kn h

/-- the operations of the public API (and of the outside world) -/
inductive LOp where
  | insertBytes (k n : Nat) | prepareAdd (k n : Nat) | write (h m : Nat) | commit (h : Nat) | dropEntry (h : Nat)
  | get (k : Nat) | remove (k : Nat) | externalDelete (k : Nat) | reopen (order : List (Key × Nat))

def lstep (c : Lru) : LOp → Lru
  | .insertBytes k n => (c.insertBytes k n).1
  | .prepareAdd k n => (c.prepareAdd k n).1
  | .write h m => c.write h m
  | .commit h => (c.commit h).1
  | .dropEntry h => c.dropEntry h
  | .get k => (c.get k).1
  | .remove k => (c.remove k).1
  | .externalDelete k => c.externalDelete k
  | .reopen o => c.reopen o

theorem lstep_fits (c : Lru) (o : LOp) (h : Fits c) : Fits (lstep c o) := by
  cases o with
  | insertBytes k n => exact insertBytes_fits c k n h
  | prepareAdd k n => exact prepareAdd_fits c k n h
  | write hh m => exact write_fits c hh m h
  | commit hh => exact commit_fits c hh h
  | dropEntry hh => exact dropEntry_fits c hh h
  | get k => exact get_fits c k h
  | remove k => exact remove_fits c k h
  | externalDelete k => exact ⟨h.np, h.size, h.reserved⟩   -- only `files` changes
  | reopen o => exact reopen_fits c o

theorem run_fits (cap : Nat) (ops : List LOp) : Fits (ops.foldl lstep { cap := cap }) :=
  List.foldlRecOn ops lstep (fits_fresh cap [] 0) fun c h o _ => lstep_fits c o h

/-- C07 `size_limit`: index plus reservations never exceed the capacity, after every history -/
theorem size_limit (cap : Nat) (ops : List LOp) :
    let c := ops.foldl lstep { cap := cap }
    c.poisoned = false → c.lruSize + c.pendingSize ≤ c.cap :=
  fun hnp => ((run_fits cap ops).acct hnp).1

/-- the result of a public operation (`ok` for those that return nothing) -/
def lres (c : Lru) : LOp → Res
  | .insertBytes k n => (c.insertBytes k n).2
  | .prepareAdd k n => (c.prepareAdd k n).2
  | .commit h => (c.commit h).2
  | .get k => (c.get k).2
  | .remove k => (c.remove k).2
  | _ => .ok

theorem makeSpace_ne_panic (c : Lru) (n : Nat) : (c.makeSpace n).2 ≠ .panic := by
  obtain ⟨m, ⟨e, _⟩ | ⟨e, _⟩⟩ := makeSpace_eq c n <;> rw [e] <;> nofun

theorem addFile_ne_panic (c : Lru) (k : Key) (n : Nat) : (c.addFile k n).2 ≠ .panic := by
  obtain ⟨m, ⟨e, _⟩ | ⟨e, _⟩⟩ := addFile_eq c k n <;> rw [e] <;> nofun

/-- Along the branches of each operation, every result is a literal other than `panic` or is handed up from `make_space`;
    nothing about the state is needed. -/
theorem lres_ne_panic (c : Lru) (o : LOp) : lres c o ≠ .panic := by
  cases o with
  | insertBytes k n =>
    show (c.insertBytes k n).2 ≠ .panic
    fun_cases insertBytes c k n
    next => nofun
    next => nofun
    next hr => exact fun h => addFile_ne_panic _ k n ((congrArg Prod.snd hr).trans h)
  | prepareAdd k n =>
    show (c.prepareAdd k n).2 ≠ .panic
    fun_cases prepareAdd c k n
    · nofun
    · exact makeSpace_ne_panic c n
  | commit h =>
    show (c.commit h).2 ≠ .panic
    fun_cases commit c h
    · nofun
    · nofun
    · nofun
    · exact makeSpace_ne_panic _ _
  | get k =>
    show (c.get k).2 ≠ .panic
    fun_cases get c k <;> nofun
  | remove k =>
    show (c.remove k).2 ≠ .panic
    fun_cases remove c k <;> nofun
  | _ => nofun

/-- C07 `no_panic`: no sequence of public operations makes the cache panic or poisons it -/
theorem no_panic (cap : Nat) (ops : List LOp) (next : LOp) :
    let c := ops.foldl lstep { cap := cap }
    c.poisoned = false ∧ lres c next ≠ .panic :=
  ⟨(run_fits cap ops).np, lres_ne_panic _ next⟩

theorem oversize_refused (c : Lru) (k n : Nat) (h : n > c.cap) :
    c.insertBytes k n = (c, .tooLarge) ∧ c.prepareAdd k n = (c, .tooLarge) := by
  simp [insertBytes, prepareAdd, makeSpace, h]

end Lru

#print axioms Lru.size_limit

end LruM
