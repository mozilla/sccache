import SccacheModel.Model.EntryRead
import SccacheModel.Proofs.Crc

namespace EntryM

/-! C08 — the reader model returns exactly what the writer model stored, and a substituted payload is refused.

    The writer's output is cut into the pieces the reader looks at (`archive_eq`, `layout_split`); each reader stage is
    computed once on the piece the writer made for it (`parseCentral_central`, `parseEocd_eocd`, `getStored_local`);
    opening looks at the local section only through its length (`openArchive_locals`). `roundtrip` and
    `payload_substitution_detected` are then the two outcomes of the CRC test in `stored_replaced`.

    Those three proofs bring the writer's piece to explicit `::` form *before* unfolding the reader. `whnf` of a
    left-nested `++` chain over variables doubles with every level, and a `match` whose discriminant is not yet in
    constructor form makes `simp` build and try the matcher's equations. `↓ List.append_assoc` reassociates from the
    root (one step per piece; bottom-up it is quadratic in the number of pieces). -/

theorem toNat_digit (x : Nat) : (UInt8.ofNat (x % 256)).toNat = x % 256 := by
  simp

theorem two_digits (n : Nat) : n % 256 + 256 * (n / 256 % 256) = n % 65536 := (Nat.mod_mul (a := 256) (b := 256)).symm

theorem rd16_le (n : Nat) (h : n < 65536) :
    rd16 (UInt8.ofNat (n % 256)) (UInt8.ofNat (n / 256 % 256)) = n := by
  unfold rd16
  rw [toNat_digit, toNat_digit, two_digits, Nat.mod_eq_of_lt h]

/-- the two halves are two-digit numbers base 256, and themselves the two digits of `n` base 65536 -/
theorem rd32_le (n : Nat) (h : n < 4294967296) :
    rd32 (UInt8.ofNat (n % 256)) (UInt8.ofNat (n / 256 % 256)) (UInt8.ofNat (n / 65536 % 256))
      (UInt8.ofNat (n / 16777216 % 256)) = n := by
  unfold rd32
  rw [toNat_digit, toNat_digit, toNat_digit, toNat_digit, two_digits, Nat.add_assoc,
    show n / 16777216 = n / 65536 / 256 from (Nat.div_div_eq_div_mul n 65536 256).symm,
    show 16777216 * (n / 65536 / 256 % 256) = 65536 * (256 * (n / 65536 / 256 % 256)) from Nat.mul_assoc 65536 256 _,
    ← Nat.mul_add, two_digits, Nat.mod_eq_of_lt (Nat.div_lt_of_lt_mul h : n / 65536 < 65536)]
  exact Nat.mod_add_div n 65536

def localsOf (ms : List Member) : Bytes := ms.flatMap fun m => localHeader m ++ m.frame
def cdOfLay (lay : List (Member × Nat)) : Bytes := lay.flatMap fun (m, off) => centralHeader m off
def eocdBytes (n cdl ll : Nat) : Bytes :=
  [80, 75, 5, 6] ++ le16 0 ++ le16 0 ++ le16 n ++ le16 n ++ le32 cdl ++ le32 ll ++ le16 0

def trailer (ms : List Member) : Bytes :=
  cdOfLay (layout 0 ms) ++ eocdBytes ms.length (cdOfLay (layout 0 ms)).length (localsOf ms).length

theorem archive_eq (ms : List Member) : archive ms = localsOf ms ++ trailer ms := by
  unfold archive trailer eocdBytes cdOfLay localsOf
  simp only [↓ List.append_assoc]

theorem eocd_length (n cdl ll : Nat) : (eocdBytes n cdl ll).length = 22 := by
  unfold eocdBytes
  simp only [List.length_append, le16, le32, List.length_cons, List.length_nil]

theorem trailer_length (ms : List Member) : (trailer ms).length = (cdOfLay (layout 0 ms)).length + 22 := by
  rw [trailer, List.length_append, eocd_length]

theorem sigAt_eocd (n cdl ll : Nat) : sigAt (eocdBytes n cdl ll) 0 [80, 75, 5, 6] = true := by
  unfold eocdBytes
  simp only [↓ List.append_assoc]
  rfl

theorem centralHeader_length (m : Member) (off : Nat) : (centralHeader m off).length = 46 + m.name.length := by
  unfold centralHeader
  simp only [List.length_append, le16, le32, dosTime, dosDate, List.length_cons, List.length_nil]

theorem layout_split {ms : List Member} {base : Nat} {m : Member} {off : Nat} (h : (m, off) ∈ layout base ms) :
    ∃ xs ys, ms = xs ++ m :: ys ∧ off = base + (localsOf xs).length := by
  induction ms generalizing base with
  | nil => cases h
  | cons x ms ih =>
    rcases List.mem_cons.mp h with he | h
    · cases he; exact ⟨[], ms, rfl, rfl⟩
    · obtain ⟨xs, ys, rfl, rfl⟩ := ih h
      exact ⟨x :: xs, ys, rfl, by simp only [localsOf, List.flatMap_cons, List.length_append]; omega⟩

theorem layout_fst (ms : List Member) (base : Nat) : (layout base ms).map Prod.fst = ms := by
  induction ms generalizing base with
  | nil => simp [layout]
  | cons x xs ih => simp [layout, ih]

def recOf (m : Member) (off : Nat) : CRec :=
  { system := 3, flags := flagOf m, method := 0, crc := crc32 m.frame, csize := m.frame.length,
    ext := permsOf m * 65536, offset := off, name := m.name }

def recsOf (lay : List (Member × Nat)) : List CRec := lay.map fun p => recOf p.1 p.2

theorem recsOf_names (ms : List Member) (base : Nat) : (recsOf (layout base ms)).map (·.name) = ms.map (·.name) := by
  induction ms generalizing base with
  | nil => rfl
  | cons x xs ih => simp only [layout, recsOf, List.map_cons, recOf] at ih ⊢; rw [ih]

theorem crc32_lt (d : Bytes) : crc32 d < 4294967296 := (crcBV d).isLt

theorem permsOf_range (m : Member) : 32768 ≤ permsOf m ∧ permsOf m < 33280 := by
  unfold permsOf
  cases m.mode with
  | none => exact ⟨by decide, by decide⟩
  | some md => dsimp only; omega

theorem permsOf_lt (m : Member) : permsOf m * 65536 < 4294967296 := by
  have := permsOf_range m
  omega

theorem flagOf_lt (m : Member) : flagOf m < 65536 := by
  unfold flagOf
  split <;> omega

theorem parseCentral_central (m : Member) (off : Nat) (rest : Bytes)
    (hn : m.name.length < 65536) (hf : m.frame.length < 4294967296) (ho : off < 4294967296)
    (hu : validUtf8 m.name = true) :
    parseCentral (centralHeader m off ++ rest) = some (recOf m off, rest) := by
  have hdec : nameDecodesToItself (flagOf m) m.name = true := by
    unfold nameDecodesToItself flagOf
    by_cases ha : isAscii m.name = true
    · simp [ha]
    · simp [ha, hu]
  unfold centralHeader le16 le32 dosTime dosDate
  simp only [↓ List.append_assoc, List.cons_append, List.nil_append]
  unfold parseCentral
  simp only [rd16_le _ hn, rd16_le _ (flagOf_lt m), rd32_le _ (crc32_lt _), rd32_le _ hf, rd32_le _ ho,
    rd32_le _ (permsOf_lt m)]
  simp [recOf, rd16, hdec]

/-- induction on the members with the first offset generalised: each record's offset and sizes are bounded by `hb` on the
    spot, so nothing has to be known about the entries of `layout` -/
theorem parseCentrals_cd (ms : List Member) (base : Nat) (tail : Bytes)
    (hn : ∀ m ∈ ms, m.name.length < 65536) (hu : ∀ m ∈ ms, validUtf8 m.name = true)
    (hb : base + (localsOf ms).length < 4294967296) :
    parseCentrals ms.length (cdOfLay (layout base ms) ++ tail) = some (recsOf (layout base ms)) := by
  induction ms generalizing base with
  | nil => rfl
  | cons m ms ih =>
    simp only [List.forall_mem_cons] at hn hu
    simp only [localsOf, List.flatMap_cons, List.length_append] at hb
    simp only [layout, cdOfLay, recsOf, List.flatMap_cons, List.map_cons, List.append_assoc, List.length_cons, parseCentrals,
      parseCentral_central m base _ hn.1 (by omega) (by omega) hu.1]
    have := ih (base + (localHeader m).length + m.frame.length) hn.2 hu.2 (by simp only [localsOf]; omega)
    simp only [cdOfLay, recsOf] at this
    rw [this]

theorem parseEocd_eocd (n cdl ll : Nat) (hn : n < 65536) (hc : cdl < 4294967296) (hl : ll < 4294967296) :
    parseEocd (eocdBytes n cdl ll) =
      some { disk := 0, cdDisk := 0, count := n, cdSize := cdl, cdOffset := ll, commentLen := 0 } := by
  unfold eocdBytes le16 le32
  simp only [↓ List.append_assoc, List.cons_append, List.nil_append]
  unfold parseEocd
  simp only [rd16_le _ hn, rd32_le _ hc, rd32_le _ hl]
  simp [rd16]

theorem unixMode_recOf (m : Member) (off : Nat) : unixMode (recOf m off) = some (permsOf m) := by
  have h0 : permsOf m * 65536 ≠ 0 := by have := permsOf_range m; omega
  simp [unixMode, recOf, h0]

theorem flagOf_even (m : Member) : flagOf m % 2 = 0 := by
  unfold flagOf
  split <;> rfl

theorem getStored_local (bs : Bytes) (rs : List CRec) (m : Member) (off : Nat) (stored post : Bytes)
    (hfind : findRec rs m.name = some (recOf m off))
    (hdrop : bs.drop off = localHeader m ++ stored ++ post)
    (hlen : stored.length = m.frame.length)
    (hn : m.name.length < 65536) :
    getStored { bytes := bs, recs := rs } m.name =
      if crc32 stored = crc32 m.frame then some (stored, some (permsOf m)) else none := by
  have hu := unixMode_recOf m off
  unfold localHeader le16 le32 dosTime dosDate at hdrop
  simp only [↓ List.append_assoc, List.cons_append, List.nil_append] at hdrop
  unfold getStored
  simp only [recOf, hfind, flagOf_even, hdrop] at hu ⊢
  simp only [rd16_le _ hn]
  have h0 : rd16 (UInt8.ofNat (0 % 256)) (UInt8.ofNat (0 / 256 % 256)) = 0 := by decide
  simp only [h0, Nat.add_zero]
  rw [List.drop_left' rfl, List.take_left' hlen, hu]
  simp

theorem inj_of_nodup_map {α β} (f : α → β) (l : List α) (h : (l.map f).Nodup) :
    ∀ x ∈ l, ∀ y ∈ l, f x = f y → x = y :=
  have hp := List.pairwise_map.mp h
  List.Pairwise.forall_of_forall_of_flip (fun _ _ _ => rfl) (hp.imp fun hne he => absurd he hne)
    (hp.imp fun hne he => absurd he.symm hne)

theorem findRec_unique (rs : List CRec) (r : CRec) (hr : r ∈ rs) (hnd : (rs.map (·.name)).Nodup) :
    findRec rs r.name = some r := by
  unfold findRec
  have hsome : (rs.reverse.find? (·.name == r.name)).isSome := by
    rw [List.find?_isSome]; exact ⟨r, by simp [hr], by simp⟩
  obtain ⟨x, hx⟩ := Option.isSome_iff_exists.mp hsome
  have hxm : x ∈ rs := by simpa using List.mem_of_find?_eq_some hx
  have hxp : x.name = r.name := by simpa using List.find?_some hx
  rw [hx, inj_of_nodup_map (·.name) rs hnd x hxm r hr hxp]

theorem findRec_none (rs : List CRec) (nm : Bytes) (h : nm ∉ rs.map (·.name)) : findRec rs nm = none := by
  unfold findRec
  rw [List.find?_eq_none]
  intro x hx
  simp only [List.mem_reverse] at hx
  simp only [beq_iff_eq]
  intro he
  exact h (by simp only [List.mem_map]; exact ⟨x, hx, he⟩)

theorem sigAt_append (L X : Bytes) (k : Nat) (sig : Bytes) : sigAt (L ++ X) (L.length + k) sig = sigAt X k sig := by
  unfold sigAt; rw [List.drop_length_add_append]

theorem sigAt_tail (L T : Bytes) (k : Nat) (hk : k ≤ T.length) (sig : Bytes) :
    sigAt (L ++ T) ((L ++ T).length - k) sig = sigAt T (T.length - k) sig := by
  rw [List.length_append, Nat.add_sub_assoc hk, sigAt_append]

theorem findEocd_hit (bs : Bytes) (pos fuel : Nat) (h : sigAt bs pos [80, 75, 5, 6] = true) :
    findEocd bs pos fuel = some pos := by
  unfold findEocd
  exact if_pos h

/-- what `openArchive` asks of local section `L`, central directory `C` and a plain 22-byte end record `E` -/
theorem openArchive_of (L C E : Bytes) (e : Eocd) (rs : List CRec) (hE : E.length = 22)
    (hsig : sigAt E 0 [80, 75, 5, 6] = true) (hparse : parseEocd E = some e)
    (hdisk : e.disk = e.cdDisk) (hcom : e.commentLen = 0) (hsize : e.cdSize = C.length) (hoff : e.cdOffset = L.length)
    (hz : sigAt (L ++ (C ++ E)) ((L ++ (C ++ E)).length - 42) [80, 75, 6, 7] = false)
    (hrecs : parseCentrals e.count (C ++ E) = some rs) :
    openArchive (L ++ (C ++ E)) = some { bytes := L ++ (C ++ E), recs := rs } := by
  have hdrop : (L ++ (C ++ E)).drop e.cdOffset = C ++ E := by rw [hoff, List.drop_left' rfl]
  have hpos : (L ++ C).length = e.cdSize + e.cdOffset := by rw [List.length_append, hsize, hoff, Nat.add_comm]
  rw [← List.append_assoc] at hz hdrop ⊢
  generalize L ++ C = pre at *
  have hlen : (pre ++ E).length = pre.length + 22 := by rw [List.length_append, hE]
  have hfind := findEocd_hit (pre ++ E) pre.length 65535 (by rw [← Nat.add_zero pre.length, sigAt_append]; exact hsig)
  have h1 : ¬ pre.length < e.cdSize + e.cdOffset := by rw [hpos]; exact Nat.lt_irrefl _
  have h2 : pre.length - e.cdSize - e.cdOffset = 0 := by rw [Nat.sub_sub, hpos, Nat.sub_self]
  rw [hlen, Nat.add_sub_add_right _ 22 20] at hz
  unfold openArchive
  simp only [hlen, Nat.add_sub_cancel, hfind, List.drop_left' rfl, hparse, hdisk, hcom, hdrop]
  simp [hz, hrecs, h1, h2]

/-- the well-formedness conditions under which the writer's output is within the plain (non-ZIP64) format,
    plus the one thing the reader can mistake: a ZIP64 locator signature 20 bytes before the end record -/
structure WF (ms : List Member) : Prop where
  names_nodup : (ms.map (·.name)).Nodup
  name_len : ∀ m ∈ ms, m.name.length < 65536
  name_utf8 : ∀ m ∈ ms, validUtf8 m.name = true          -- object keys are Rust `&str`s
  count : ms.length < 65536
  total : (archive ms).length < 4294967296
  no_zip64_sig : sigAt (archive ms) ((archive ms).length - 42) [80, 75, 6, 7] = false

theorem openArchive_locals (ms : List Member) (h : WF ms) (L : Bytes) (hL : L.length = (localsOf ms).length) :
    openArchive (L ++ trailer ms) = some { bytes := L ++ trailer ms, recs := recsOf (layout 0 ms) } := by
  have htot := h.total
  have hz := h.no_zip64_sig
  rw [archive_eq] at htot hz
  -- the ZIP64 probe lies inside the trailer unless there is no member at all
  have hz' : sigAt (L ++ trailer ms) ((L ++ trailer ms).length - 42) [80, 75, 6, 7] = false := by
    cases ms with
    | nil => obtain rfl := List.eq_nil_of_length_eq_zero hL; exact hz
    | cons x xs =>
      have h42 : 42 ≤ (trailer (x :: xs)).length := by
        simp only [trailer_length, layout, cdOfLay, List.flatMap_cons, List.length_append, centralHeader_length]; omega
      rw [sigAt_tail _ _ _ h42] at hz ⊢; exact hz
  rw [List.length_append, trailer_length] at htot
  exact openArchive_of L _ _ _ _ (eocd_length ..) (sigAt_eocd ..) (parseEocd_eocd _ _ _ h.count (by omega) (by omega))
    (hdisk := rfl) (hcom := rfl) (hsize := rfl) (hoff := hL.symm) hz'
    (parseCentrals_cd ms 0 _ h.name_len h.name_utf8 (by omega))

theorem crc32_set_ne (f : Bytes) (i : Nat) (hi : i < f.length) (b : UInt8) (hb : b ≠ f[i]) :
    crc32 (f.set i b) ≠ crc32 f := by
  have := crc_single_byte (f.take i) (f.drop (i + 1)) b f[i] hb
  rw [List.set_eq_take_append_cons_drop, if_pos hi]
  exact fun hc => this (BitVec.eq_of_toNat_eq (by simpa [crc32] using hc))

theorem set_mid {α} (p f s : List α) (i : Nat) (hi : i < f.length) (b : α) :
    (p ++ f ++ s).set (p.length + i) b = p ++ f.set i b ++ s := by
  rw [List.append_assoc, List.set_append_right _ _ (Nat.le_add_right ..), Nat.add_sub_cancel_left,
    List.set_append_left _ _ hi, List.append_assoc]

/-- `roundtrip` is the case `stored = m.frame`, `payload_substitution_detected` the case `m.frame.set i b`. -/
theorem stored_replaced (ms : List Member) (h : WF ms) (m : Member) (off : Nat) (hp : (m, off) ∈ layout 0 ms) :
    ∃ pre post, archive ms = pre ++ m.frame ++ post ∧ pre.length = off + (localHeader m).length ∧
      ∀ stored : Bytes, stored.length = m.frame.length →
        ∃ a, openArchive (pre ++ stored ++ post) = some a ∧
          getStored a m.name = if crc32 stored = crc32 m.frame then some (stored, some (permsOf m)) else none := by
  obtain ⟨xs, ys, hms, hl⟩ := layout_split hp
  rw [Nat.zero_add] at hl
  have he : localsOf ms = localsOf xs ++ (localHeader m ++ m.frame) ++ localsOf ys := by
    rw [hms]; simp only [localsOf, List.flatMap_append, List.flatMap_cons, List.append_assoc]
  refine ⟨localsOf xs ++ localHeader m, localsOf ys ++ trailer ms, ?_, by rw [List.length_append, hl], fun stored hlen => ?_⟩
  · rw [archive_eq, he]
    simp only [List.append_assoc]
  · have hopen := openArchive_locals ms h (localsOf xs ++ (localHeader m ++ stored) ++ localsOf ys)
      (by rw [he]; simp only [List.length_append, hlen])
    simp only [List.append_assoc] at hopen ⊢
    refine ⟨_, hopen, getStored_local _ _ m off stored (localsOf ys ++ trailer ms) ?_ ?_ hlen
      (h.name_len m (by rw [hms]; exact List.mem_append_right _ List.mem_cons_self))⟩
    · exact findRec_unique (recsOf (layout 0 ms)) (recOf m off) (List.mem_map.mpr ⟨_, hp, rfl⟩)
        (by rw [recsOf_names]; exact h.names_nodup)
    · rw [List.append_assoc, hl, List.drop_left' rfl]

/-- C08 `roundtrip`: every member of a written archive reads back with exactly its stored bytes and
    `(mode & 0o777) | 0o100000`; no other name resolves -/
theorem roundtrip (ms : List Member) (h : WF ms) :
    ∃ a, openArchive (archive ms) = some a ∧
      (∀ m ∈ ms, getStored a m.name = some (m.frame, some (permsOf m))) ∧
      (∀ nm, nm ∉ ms.map (·.name) → getStored a nm = none) := by
  have hopen := openArchive_locals ms h _ rfl
  rw [← archive_eq] at hopen
  refine ⟨_, hopen, ?_, ?_⟩
  · intro m hm
    rw [← layout_fst ms 0] at hm
    obtain ⟨⟨m, off⟩, hp, rfl⟩ := List.mem_map.mp hm
    obtain ⟨pre, post, harch, -, hread⟩ := stored_replaced ms h m off hp
    obtain ⟨a, ha, hg⟩ := hread m.frame rfl
    rw [← harch, hopen] at ha
    rw [Option.some.inj ha, hg, if_pos rfl]
  · intro nm hnm
    unfold getStored
    rw [findRec_none _ nm (by rw [recsOf_names]; exact hnm)]

/-- C08 `payload_substitution_detected`: with one byte of a member's stored bytes replaced the archive still opens, but that
    member can no longer be read (the CRC-32 of the central directory no longer matches) -/
theorem payload_substitution_detected (ms : List Member) (h : WF ms) (m : Member) (off : Nat)
    (hp : (m, off) ∈ layout 0 ms) (i : Nat) (hi : i < m.frame.length) (b : UInt8) (hb : b ≠ m.frame[i]) :
    ∃ a, openArchive ((archive ms).set (off + (localHeader m).length + i) b) = some a ∧
      getStored a m.name = none := by
  obtain ⟨pre, post, harch, hl, hread⟩ := stored_replaced ms h m off hp
  obtain ⟨a, ha, hg⟩ := hread (m.frame.set i b) List.length_set
  rw [harch, ← hl, set_mid pre m.frame post i hi]
  exact ⟨a, ha, by rw [hg, if_neg (crc32_set_ne m.frame i hi b hb)]⟩

#print axioms roundtrip
#print axioms payload_substitution_detected

def exObj : Member := { name := [111, 98, 106], mode := some 33261, frame := [40, 181, 47, 253, 1, 2, 3] }   -- "obj", 0o100755
def exErr : Member := { name := [115, 116, 100, 101, 114, 114], mode := none, frame := [9, 8] }            -- "stderr"

theorem wf_example : WF [exObj, exErr] := ⟨by decide, by decide, by decide, by decide, by decide +kernel, by decide +kernel⟩

/-- the hypotheses of `roundtrip` are satisfiable by an ordinary entry -/
example : WF [exObj, exErr] := wf_example

/-- and the conclusion is what evaluation gives on it (a test, not the theorem) -/
example : (openArchive (archive [exObj, exErr])).bind (getStored · exObj.name) = some (exObj.frame, some 33261) := by
  decide +kernel

/-- the excluded point: a last member whose 20-byte name starts with the ZIP64 locator signature `PK\x06\x07`
    makes the real reader (and the model) look for a ZIP64 record; the entry cannot be opened at all -/
def exZip64Name : Member :=
  { name := [80, 75, 6, 7, 97, 97, 97, 97, 97, 97, 97, 97, 97, 97, 97, 97, 97, 97, 97, 97], mode := some 33188, frame := [1] }

theorem zip64_name_witness : openArchive (archive [exObj, exZip64Name]) = none ∧
    sigAt (archive [exObj, exZip64Name]) ((archive [exObj, exZip64Name]).length - 42) [80, 75, 6, 7] = true := by
  decide +kernel

end EntryM
