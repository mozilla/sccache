import SccacheModel.Model.Memo

/-! C12: as long as equal mtime means equal contents, the digest used for a request is that of the binary then at the
    path (`memo_fresh`); the key of the compiler map carries the file name a request was made under, so two names
    never share an entry (`names_never_share_an_entry`). -/
namespace MemoM

/-- invariant: the memo entry agrees with every binary still to come that has its mtime -/
theorem memo_fresh_gen (bs : List Bin) (h : MtimeDeterminesContent bs) (m : Option MemoEntry)
    (hm : ∀ e, m = some e → ∀ b ∈ bs, b.mtime = e.mtime → b.content = e.digest) :
    digestsUsed m bs = bs.map (·.content) := by
  induction bs generalizing m with
  | nil => rfl
  | cons b bs ih =>
    have hbs : MtimeDeterminesContent bs := fun x hx y hy => h x (.tail _ hx) y (.tail _ hy)
    have fresh : digestsUsed (some ⟨b.content, b.mtime⟩) bs = bs.map (·.content) :=
      ih hbs _ fun e he x hx hxe => by cases he; exact h x (.tail _ hx) b (.head _) hxe
    cases m with
    | none => simpa [digestsUsed, lookup] using fresh
    | some e =>
      by_cases heq : e.mtime = b.mtime
      · have hd : b.content = e.digest := hm e rfl b (.head _) heq.symm
        have := ih hbs (some e) fun e' he' x hx => by cases he'; exact hm e rfl x (.tail _ hx)
        simpa [digestsUsed, lookup, heq, hd] using this
      · simpa [digestsUsed, lookup, heq] using fresh

/-- C12 `memo_fresh`: where equal mtime implies equal contents, each request uses the digest of the binary then at the path -/
theorem memo_fresh (bs : List Bin) (h : MtimeDeterminesContent bs) : digestsUsed none bs = bs.map (·.content) :=
  memo_fresh_gen bs h none (by intro e he; cases he)

/-- negative result outside the hypothesis: restoring an old mtime with new contents defeats the memo -/
theorem memo_stale_witness : digestsUsed none [⟨1, 10⟩, ⟨2, 10⟩] = [1, 1] := by decide

theorem memoKey_name (nameOf : Nat → Nat) (r : Req) : nameOf (memoKey nameOf r) = nameOf r.self := by
  unfold memoKey; split
  · assumption
  · rfl

/-- C12 `names_never_share_an_entry`: `gcc` and `g++` (links to one binary) never inherit each other's detected compiler -/
theorem names_never_share_an_entry (nameOf : Nat → Nat) (r₁ r₂ : Req) (h : memoKey nameOf r₁ = memoKey nameOf r₂) :
    nameOf r₁.self = nameOf r₂.self := by
  rw [← memoKey_name nameOf r₁, ← memoKey_name nameOf r₂, h]

/-- … while two spellings of one file name that resolve to one file do share their entry (that is what the canonicalisation is for) -/
theorem same_name_links_share (nameOf : Nat → Nat) (r₁ r₂ : Req) (hc : r₁.canon = r₂.canon)
    (h1 : nameOf r₁.canon = nameOf r₁.self) (h2 : nameOf r₂.canon = nameOf r₂.self) :
    memoKey nameOf r₁ = memoKey nameOf r₂ := by
  unfold memoKey; rw [if_pos h1, if_pos h2, hc]

/-- the rule S-C01-3 replaced it with (always canonicalize): `gcc` and `g++` as links to one binary collapse (kernel-checked) -/
theorem always_canonicalize_collapses_witness :
    let nameOf : Nat → Nat := fun p => if p = 1 then 10 else if p = 2 then 20 else 30      -- path 1 = gcc, path 2 = g++, path 3 = the binary
    -- under "always canonicalize" both requests would use the entry of path 3; the real rule keeps them at paths 1 and 2
    (⟨1, 3⟩ : Req).canon = (⟨2, 3⟩ : Req).canon ∧ memoKey nameOf ⟨1, 3⟩ = 1 ∧ memoKey nameOf ⟨2, 3⟩ = 2 := by decide

end MemoM
