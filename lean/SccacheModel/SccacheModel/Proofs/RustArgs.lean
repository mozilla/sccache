import SccacheModel.Proofs.ByteOrder

/-! The rustc `parse_arguments` (`RArgsM`) hands on every argument except `--color` (C05 `rust_args_complete`), and the order
    `externs.sort()` uses is a total order on component lists, so the sorted externs do not depend on the command-line order. -/

namespace RArgsM

/-- the `--color` tokens: the only arguments `parse_arguments` drops from the list it hands on -/
def Tok.isColor : Tok → Bool
  | .val _ .color (.str _) => true
  | _ => false

theorem step_args (cwd : Bytes) (st st' : St) (t : Tok) (h : step cwd st t = .ok st') :
    st'.args = st.args ++ (if t.isColor then [] else [tokArg t]) := by
  revert h
  fun_cases step cwd st t <;> intro h <;> cases h <;> simp +zetaDelta [Tok.isColor, apply_ite St.args]

/-- C05 `rust_args_complete`: the argument list handed on is, in order, every argument except the `--color` ones -/
theorem loop_args (cwd : Bytes) (toks : List (Option Tok)) (st st' : St) (h : loop cwd st toks = .ok st') :
    ∃ ts : List Tok, toks = ts.map some ∧ st'.args = st.args ++ (ts.filter (fun t => !t.isColor)).map tokArg := by
  fun_induction loop cwd st toks with
  | case1 st => cases h; exact ⟨[], rfl, by simp⟩
  | case2 | case4 => cases h      -- a value that did not parse; an early return of `step`
  | case3 st t toks st₁ hs ih =>
    obtain ⟨ts, rfl, hf⟩ := ih h
    refine ⟨t :: ts, rfl, ?_⟩
    rw [hf, step_args cwd st st₁ t hs]
    cases hc : t.isColor <;> simp [hc]

/-! ### the order used by `externs.sort()`: the derived order of `Component`, lexicographically on component lists -/

theorem leComp_total (a b : Nat × Bytes) : (leComp a b || leComp b a) = true :=
  lexPair_total (le₁ := fun a b => decide (a < b)) (fun _ _ => rfl) a b (fun h => by simpa using Nat.lt_or_gt_of_ne h)
    (leB_total _ _)

theorem leComp_antisymm (a b : Nat × Bytes) : leComp a b = true → leComp b a = true → a = b :=
  lexPair_antisymm (le₁ := fun a b => decide (a < b)) (fun _ _ => rfl) a b (fun h1 h2 => by simp at h1 h2; omega)
    (leB_antisymm _ _)

theorem leComp_trans (a b c : Nat × Bytes) : leComp a b = true → leComp b c = true → leComp a c = true :=
  lexPair_trans (le₁ := fun a b => decide (a < b)) (fun _ _ => rfl) a b c (fun h1 h2 => by simp at h1 h2; omega)
    (fun h1 h2 => by simp at *; omega) (leB_trans _ _ _)

/-- `leComps` on non-empty lists has the shape of `lexPair_*`, a list being its head and its tail -/
theorem leComps_cons (p q : (Nat × Bytes) × List (Nat × Bytes)) :
    leComps (p.1 :: p.2) (q.1 :: q.2) = if p.1 == q.1 then leComps p.2 q.2 else leComp p.1 q.1 := rfl

theorem leComps_total (a b : List (Nat × Bytes)) : (leComps a b || leComps b a) = true := by
  induction a generalizing b with
  | nil => simp [leComps]
  | cons x xs ih =>
    cases b with
    | nil => simp [leComps]
    | cons y ys => exact lexPair_total leComps_cons (x, xs) (y, ys) (fun _ => leComp_total x y) (ih ys)

theorem leComps_antisymm (a b : List (Nat × Bytes)) (h1 : leComps a b = true) (h2 : leComps b a = true) : a = b := by
  induction a generalizing b with
  | nil => cases b with
    | nil => rfl
    | cons _ _ => simp [leComps] at h2
  | cons x xs ih =>
    cases b with
    | nil => simp [leComps] at h1
    | cons y ys =>
      exact congrArg (fun p => p.1 :: p.2)
        (lexPair_antisymm leComps_cons (x, xs) (y, ys) (leComp_antisymm x y) (ih ys) h1 h2)

theorem leComps_trans (a b c : List (Nat × Bytes)) (h1 : leComps a b = true) (h2 : leComps b c = true) : leComps a c = true := by
  induction a generalizing b c with
  | nil => simp [leComps]
  | cons x xs ih =>
    cases b with
    | nil => simp [leComps] at h1
    | cons y ys =>
      cases c with
      | nil => simp [leComps] at h2
      | cons z zs =>
        exact lexPair_trans leComps_cons (x, xs) (y, ys) (z, zs) (leComp_antisymm x y) (leComp_trans x y z) (ih ys zs) h1 h2

/-- C05 `externs_order_independent`, on component lists: `a//b` and `a/b` compare equal (they are the same file) and keep
    their relative input order -/
theorem sorted_externs_perm_eq (l1 l2 : List Bytes) (h : l1.Perm l2) :
    (l1.mergeSort lePath).map comps = (l2.mergeSort lePath).map comps := by
  rw [List.map_mergeSort (r := lePath) (s := leComps) (f := comps) (fun _ _ _ _ => rfl),
    List.map_mergeSort (r := lePath) (s := leComps) (f := comps) (fun _ _ _ _ => rfl)]
  exact mergeSort_eq_of_perm leComps leComps_total leComps_antisymm leComps_trans (h.map comps)

end RArgsM
