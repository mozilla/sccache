import SccacheModel.Model.Stats

/-! C14: a counter counts occurrences, so the final counters do not depend on the interleaving; a linear law between
    counters holds of every quiescent history once it holds of each row of the increment table (`cnt_law`), and
    that is one evaluation over the 21 rows (`forall_disp`). -/
namespace StatsM

theorem statsOf_count (incs : List Counter) (c : Counter) : statsOf incs c = incs.count c := by
  have : ∀ (s : Stats), (incs.foldl bump s) c = s c + incs.count c := by
    induction incs with
    | nil => intro s; simp
    | cons a as ih =>
      intro s
      simp only [List.foldl_cons, ih, bump]
      by_cases h : c = a
      · subst h; simp; omega
      · have : ¬ (a = c) := fun e => h e.symm
        simp [h, this]
  simpa [statsOf] using this (fun _ => 0)

/-- every increment happens under one mutex, so a concurrent history is *some* interleaving of the per-request increment lists -/
theorem stats_interleaving_invariant (l₁ l₂ : List Counter) (p : l₁.Perm l₂) : statsOf l₁ = statsOf l₂ :=
  funext fun c => by rw [statsOf_count, statsOf_count, p.count_eq]

theorem cnt_cons (d : Disp) (ds : List Disp) (c : Counter) :
    cnt (d :: ds) c = (incsOfRequest d).count c + cnt ds c := by
  simp [cnt, statsOf_count, history]

/-- `zero` and `add` hold of any system of linear equations and inequalities between counters. -/
theorem cnt_law {P : Stats → Prop} (zero : P fun _ => 0) (add : ∀ f g, P f → P g → P fun c => f c + g c)
    (row : ∀ d, P fun c => (incsOfRequest d).count c) (reqs : List Disp) : P (cnt reqs) := by
  induction reqs with
  | nil => exact zero
  | cons d ds ih => rw [funext (cnt_cons d ds)]; exact add _ _ (row d) ih

def allDisps : List Disp :=
  [.unsupported, .notCacheable, .notCompile] ++
  (([.errorPP, .hit, .notCached, .notCacheable, .compileFailed, .errProcess, .errHttp, .errFatal] : List Outcome) ++
    ([.normal, .forcedNoCache, .forcedRecache, .timedOut, .cacheReadError] : List MissType).flatMap
      fun t => [Outcome.miss t true, .miss t false]).map .executed

/-- a property of every row of the (regenerated) table is one evaluation over the 21 rows: `forall_disp (by decide)` -/
theorem forall_disp {p : Disp → Prop} (h : ∀ d ∈ allDisps, p d) (d : Disp) : p d :=
  h d (by rcases d with _ | _ | _ | (_ | _ | ⟨_ | _ | _ | _ | _, _ | _⟩ | _ | _ | _ | _ | _ | _) <;> decide)

/-- every compile request is accounted for by exactly one disposition -/
theorem law_requests (reqs : List Disp) :
    cnt reqs .compileRequests = cnt reqs .executed + cnt reqs .notCacheable + cnt reqs .notCompile + cnt reqs .unsupported :=
  cnt_law (P := fun f => f .compileRequests = f .executed + f .notCacheable + f .notCompile + f .unsupported)
    rfl (by intro f g; dsimp only; omega) (forall_disp (by decide)) reqs

theorem law_writes (reqs : List Disp) :
    cnt reqs .cacheWrites + cnt reqs .cacheWriteErrors = cnt reqs .cacheMisses :=
  cnt_law (P := fun f => f .cacheWrites + f .cacheWriteErrors = f .cacheMisses)
    rfl (by intro f g; dsimp only; omega) (forall_disp (by decide)) reqs

theorem ledger_hits (reqs : List Disp) : cnt reqs .cacheHits = (reqs.filter (· = .executed .hit)).length := by
  have row : ∀ d, (incsOfRequest d).count .cacheHits = if d = .executed .hit then 1 else 0 := forall_disp (by decide)
  induction reqs with
  | nil => rfl
  | cons d ds ih => rw [cnt_cons, ih, row, List.filter_cons]; split <;> simp [*, Nat.add_comm]

theorem law_compilations (reqs : List Disp) :
    cnt reqs .compilations + cnt reqs .cacheHits ≤ cnt reqs .executed ∧ cnt reqs .cacheMisses ≤ cnt reqs .compilations :=
  cnt_law (P := fun f => f .compilations + f .cacheHits ≤ f .executed ∧ f .cacheMisses ≤ f .compilations)
    (by decide) (by intro f g; dsimp only; omega) (forall_disp (by decide)) reqs

#print axioms law_requests
#print axioms stats_interleaving_invariant

end StatsM
