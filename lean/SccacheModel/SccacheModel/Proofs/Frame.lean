import SccacheModel.Model.Frame

/-! the frame reader of a connection: enough fuel is enough, composition of `drain`, split invariance of `feedAll`. -/
namespace FrameM

/-- every frame takes at least its four-byte head off the buffer -/
theorem drain_fuel (mf f g : Nat) (b : Bytes) (hf : b.length < f) (hg : b.length < g) : drain mf f b = drain mf g b := by
  fun_induction drain mf f b generalizing g with
  | case1 => omega
  | case2 | case3 | case4 | case5 => cases g with | zero => omega | succ g => simp +zetaDelta [drain, *]
  | case6 f b h4 n hmax hlen r hdec os rest d hrec ih =>
    cases g with
    | zero => omega
    | succ g =>
      simp +zetaDelta only [drain, *, if_false]
      rw [← ih g (by rw [List.length_drop]; omega) (by rw [List.length_drop]; omega), hrec]

/-- one step of `drain` on `b ++ y` when `b` alone settles it (`b` holds an oversized head or a whole frame) -/
theorem drain_succ_append (mf g : Nat) (b y : Bytes) (h4 : ¬ b.length < 4)
    (h : mf < beVal (b.take 4) ∨ ¬ b.length < 4 + beVal (b.take 4)) :
    drain mf (g + 1) (b ++ y) =
      if mf < beVal (b.take 4) then ([.closed], [], true) else
      match decReq ((b.drop 4).take (beVal (b.take 4))) with
      | none => ([.closed], [], true)
      | some r => (.request r :: (drain mf g (b.drop (4 + beVal (b.take 4)) ++ y)).1,
                    (drain mf g (b.drop (4 + beVal (b.take 4)) ++ y)).2) := by
  have h4' : ¬ (b ++ y).length < 4 := by rw [List.length_append]; omega
  have ht : (b ++ y).take 4 = b.take 4 := List.take_append_of_le_length (by omega)
  simp only [drain, if_neg h4', ht]
  rcases h with h | h
  · rw [if_pos h, if_pos h]
  · have hl : ¬ (b ++ y).length < 4 + beVal (b.take 4) := by rw [List.length_append]; omega
    rw [if_neg hl, List.drop_append_of_le_length (by omega), List.take_append_of_le_length (by rw [List.length_drop]; omega),
      List.drop_append_of_le_length (by omega)]
    rfl

/-- a dead connection stays as it is; a live one goes on with what was left -/
def combine (r1 : List Out × Bytes × Bool) (k : Bytes → List Out × Bytes × Bool) : List Out × Bytes × Bool :=
  if r1.2.2 then r1 else (r1.1 ++ (k r1.2.1).1, (k r1.2.1).2)

/-- Where `b` alone does not settle a step, `drain` leaves `b` as it found it. -/
theorem drain_append (mf f : Nat) (b y : Bytes) (hf : b.length < f) :
    drain mf ((b ++ y).length + 1) (b ++ y) =
      combine (drain mf f b) (fun r => drain mf ((r ++ y).length + 1) (r ++ y)) := by
  fun_induction drain mf f b with
  | case1 => omega
  | case2 | case4 => simp [combine]
  | case3 f b h4 n hmax => rw [drain_succ_append mf _ b y h4 (.inl hmax), if_pos hmax]; rfl
  | case5 f b h4 n hmax hlen hdec => rw [drain_succ_append mf _ b y h4 (.inr hlen), if_neg hmax, hdec]; rfl
  | case6 f b h4 n hmax hlen r hdec os rest d hrec ih =>
    rw [drain_succ_append mf _ b y h4 (.inr hlen), if_neg hmax, hdec,
      drain_fuel mf (b ++ y).length ((b.drop (4 + n) ++ y).length + 1) (b.drop (4 + n) ++ y)
        (by simp only [List.length_append, List.length_drop]; omega) (Nat.lt_succ_self _),
      ih (by rw [List.length_drop]; omega), hrec]
    cases d <;> rfl   -- `combine` computes once the flag is known

theorem feed_append (c : Conn) (x z : Bytes) :
    feed c (x ++ z) = ((feed (feed c x).1 z).1, (feed c x).2 ++ (feed (feed c x).1 z).2) := by
  obtain ⟨mf, buf, dead⟩ := c
  cases dead with
  | true => rfl
  | false =>
    have key := drain_append mf ((buf ++ x).length + 1) (buf ++ x) z (Nat.lt_succ_self _)
    rw [List.append_assoc] at key
    unfold feed
    simp only [Bool.false_eq_true, if_false, key, combine]
    generalize drain mf ((buf ++ x).length + 1) (buf ++ x) = D
    obtain ⟨os, rest, d⟩ := D
    cases d with
    | true => simp only [if_true, List.append_nil]   -- dead after `x`: `z` is not looked at
    | false => rfl                                    -- live: both sides go on with `rest ++ z`

/-- Non-empty: `feedAll c []` does nothing, while `feed c []` takes off a frame that an arbitrary `c.buf` already
    holds whole. -/
theorem feedAll_cons (c : Conn) (x : Bytes) (xs : List Bytes) : feedAll c (x :: xs) = feed c (x :: xs).flatten := by
  induction xs generalizing c x with
  | nil => simp [feedAll]
  | cons y ys ih =>
    have h1 : feedAll c (x :: y :: ys) =
        ((feedAll (feed c x).1 (y :: ys)).1, (feed c x).2 ++ (feedAll (feed c x).1 (y :: ys)).2) := by
      simp [feedAll]
    rw [h1, ih, List.flatten_cons, List.flatten_cons, feed_append c x, List.flatten_cons]

/-- C11 `reads_do_not_matter`: what a connection does depends on the bytes received, not on how the reads cut them -/
theorem split_invariant (c : Conn) (x y : Bytes) (xs ys : List Bytes) (h : (x :: xs).flatten = (y :: ys).flatten) :
    feedAll c (x :: xs) = feedAll c (y :: ys) := by
  rw [feedAll_cons, feedAll_cons, h]

theorem dead_ignores (c : Conn) (h : c.dead = true) (chunk : Bytes) : feed c chunk = (c, []) := by simp [feed, h]

theorem oversized_frame_closes (mf : Nat) (head rest : Bytes) (hh : head.length = 4) (hbig : mf < beVal head) :
    (feed (Conn.init mf) (head ++ rest)).2 = [.closed] ∧ (feed (Conn.init mf) (head ++ rest)).1.dead = true := by
  have ht : head.take 4 = head := List.take_of_length_le (Nat.le_of_eq hh)
  have hd := drain_succ_append mf (head ++ rest).length head rest (by omega) (.inl (ht.symm ▸ hbig))
  rw [if_pos (ht.symm ▸ hbig)] at hd
  unfold feed Conn.init
  simp only [Bool.false_eq_true, if_false, List.nil_append, hd, and_self]

end FrameM
