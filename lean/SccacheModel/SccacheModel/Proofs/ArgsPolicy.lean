import SccacheModel.Gen.Args
import SccacheModel.Proofs.ByteOrder

namespace ArgsM

/-! Facts about the *generated* gcc and clang argument tables, checked again whenever the translator regenerates them
    from `gcc.rs` / `clang.rs`: no flag is in the unhashed class, the tables are sorted, no name occurs twice. -/

/-- C01 `unhashed_policy`: no flag of the generated tables is classified `Unhashed`/`UnhashedFlag` (arguments of that class
    reach the compiler without reaching the key) -/
theorem unhashed_policy :
    List.all (gccArgs ++ clangArgs) (fun (i : ArgInfo) => !(i.variant == Variant.unhashed || i.variant == Variant.unhashedFlag)) = true := by
  decide +kernel

theorem cmpBytes_eq_rust (a b : Bytes) : cmpBytes a b = RArgsM.cmpBytes a b := by
  fun_induction cmpBytes a b <;> simp [RArgsM.cmpBytes, *]

/-- both tables are in the order the binary search of `ArgsIter` needs: strictly increasing flags. The kernel checks
    neighbours only, as `SearchableArgInfo::check` does. -/
theorem tables_sorted :
    gccArgs.Pairwise (fun a b => cmpBytes a.name b.name = .lt) ∧ clangArgs.Pairwise (fun a b => cmpBytes a.name b.name = .lt) := by
  simp only [cmpBytes_eq_rust]
  exact ⟨RArgsM.pairwise_lt_of_chain _ _ (by decide +kernel), RArgsM.pairwise_lt_of_chain _ _ (by decide +kernel)⟩

/-- the lookup of `ArgsIter` would otherwise depend on table order -/
theorem tables_names_distinct :
    List.Pairwise (fun (a b : ArgInfo) => a.name ≠ b.name) gccArgs ∧ List.Pairwise (fun (a b : ArgInfo) => a.name ≠ b.name) clangArgs := by
  have ne (a b : ArgInfo) (h : cmpBytes a.name b.name = .lt) : a.name ≠ b.name := fun e => by
    rw [cmpBytes_eq_rust, RArgsM.cmpBytes_lt_iff, e] at h; exact List.lt_irrefl _ h
  exact ⟨tables_sorted.1.imp (ne _ _), tables_sorted.2.imp (ne _ _)⟩

#print axioms unhashed_policy

end ArgsM
