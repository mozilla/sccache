import SccacheModel.Model.AtFile

/-! Response-file expansion: for files that need no quote handling libiberty's `buildargv` is plain white-space splitting;
    whenever `sccExpand` leaves no `@` argument, `gccExpand` yields the same list. -/
namespace AtFileM

/-- no byte that `buildargv` treats specially, and no NUL -/
def Plain (c : Bytes) : Prop := ∀ b ∈ c, b ≠ 34 ∧ b ≠ 39 ∧ b ≠ 92 ∧ b ≠ 0

theorem Plain.dropWhile {l : Bytes} (p : UInt8 → Bool) (h : Plain l) : Plain (l.dropWhile p) :=
  fun b hb => h b ((List.dropWhile_sublist p).subset hb)

theorem parseArg_plain (i : Bytes) : ∀ acc, Plain i →
    parseArg false false false acc i = (acc.reverse ++ i.takeWhile (fun b => !isSpace b), i.dropWhile (fun b => !isSpace b)) := by
  induction i with
  | nil => intro acc _; simp [parseArg]
  | cons c rest ih =>
    intro acc hp
    obtain ⟨hc, hrest⟩ := List.forall_mem_cons.1 hp
    cases hs : isSpace c <;> simp [parseArg, hs, hc, ih _ hrest]

theorem buildargv_plain (f : Nat) : ∀ s : Bytes, Plain s → buildargvFuel f s = splitWsFuel f s := by
  induction f with
  | zero => intro s _; rfl
  | succ f ih =>
    intro s hp
    have hd := hp.dropWhile isSpace
    simp only [buildargvFuel, splitWsFuel]
    cases hi : s.dropWhile isSpace with
    | nil => rfl
    | cons c i =>
      rw [hi] at hd
      simp only [parseArg_plain (c :: i) [] hd, List.reverse_nil, List.nil_append, ih _ (hd.dropWhile _)]

theorem gccWords_plain {c : Bytes} (h : needsQuoting c = false) : gccWords c = splitWs c := by
  have hp : Plain c := by simpa [needsQuoting, Plain, and_assoc] using h
  have : c.takeWhile (· != 0) = c := by
    simpa using List.takeWhile_append_of_pos (l₂ := []) (p := (· != 0)) fun b hb => by simpa using (hp b hb).2.2.2
  simp only [gccWords, this]
  exact buildargv_plain _ c hp

def noAt (l : List Bytes) : Prop := ∀ x ∈ l, stripAt x = none

/-- C01 `response_files_agree`: if sccache's expansion leaves no `@` argument, the compiler's own expansion is the same list -/
theorem expand_agrees (fs : Fs) (b : Nat) (args : List Bytes) (h : noAt (sccExpand fs b args)) :
    gccExpand fs b args = some (sccExpand fs b args) := by
  fun_induction sccExpand fs b args with
  | case1 b => simp [gccExpand]
  | case2 b a rest hs ih =>
    have h' : noAt (sccExpand fs b rest) := fun x hx => h x (List.mem_cons_of_mem _ hx)
    rw [gccExpand, hs]
    rw [ih h']
    rfl
  | case3 b a rest name hs | case4 b a rest name hs | case5 b a rest name hs | case6 b a rest name hs =>
    -- the `@` argument is kept, against `h`
    have := h a (List.mem_cons_self ..)
    rw [hs] at this
    cases this
  | case7 b a rest name hs hb c hf hq ih =>
    simp only [Bool.or_eq_true, not_or, Bool.not_eq_true] at hq
    rw [gccExpand, hs]
    simp only [hb, hf, gccWords_plain hq.2]
    exact ih h

theorem sccExpand_no_at (fs : Fs) (b : Nat) (args : List Bytes) (h : noAt args) : sccExpand fs b args = args := by
  induction args with
  | nil => simp [sccExpand]
  | cons a rest ih =>
    have ha := h a (List.mem_cons_self ..)
    rw [sccExpand, ha]
    simp only [ih fun x hx => h x (List.mem_cons_of_mem _ hx)]

/-- `r` = "-DA=1  @s\n", `s` = "-DB\t-DC", `q` = "-DX=\7", `l` = "-DL @l" -/
def fsEx : Fs := fun n =>
  if n = [114] then .file [45, 68, 65, 61, 49, 32, 32, 64, 115, 10]
  else if n = [115] then .file [45, 68, 66, 9, 45, 68, 67]
  else if n = [113] then .file [45, 68, 88, 61, 92, 55]
  else if n = [108] then .file [45, 68, 76, 32, 64, 108]
  else .missing

example : sccExpand fsEx 2000 [[45, 99], [64, 114], [120]] = [[45, 99], [45, 68, 65, 61, 49], [45, 68, 66], [45, 68, 67], [120]] := by
  simp +decide [sccExpand, stripAt, fsEx, splitWs, splitWsFuel]
example : sccExpand fsEx 2000 [[64, 113]] = [[64, 113]] := by
  simp +decide [sccExpand, stripAt, fsEx]
example : gccExpand fsEx 2000 [[64, 113]] = some [[45, 68, 88, 61, 55]] := by
  simp +decide [gccExpand, stripAt, fsEx, gccWords, buildargvFuel, parseArg]
end AtFileM
