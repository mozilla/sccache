import SccacheModel.Model.Atomic

/-! C06/C10: every action but the allocation in `putPrepare` is `Quiet` (`step_quiet`: what it does to inodes, names and
    threads, as far as the invariants look); `AInv` and the provenance invariant `Prov` survive a quiet step and an
    allocation, hence hold after every run; `hit_sound` reads both off, and `get_complete`, `get_stored_value`,
    `crash_safe` are instances. -/
namespace AtomicM

@[simp] theorem upd_same {α β} [DecidableEq α] (f : α → β) (a : α) (b : β) : upd f a b a = b := if_pos rfl

theorem upd_ne {α β} [DecidableEq α] (f : α → β) {a x : α} (b : β) (h : x ≠ a) : upd f a b x = f x := if_neg h

theorem upd_eq {α β} [DecidableEq α] {f : α → β} {a x : α} {b y : β} (h : upd f a b x = y) :
    x = a ∧ b = y ∨ x ≠ a ∧ f x = y := by
  by_cases e : x = a
  · subst e; exact .inl ⟨rfl, by simpa using h⟩
  · exact .inr ⟨e, by simpa [upd_ne _ _ e] using h⟩

theorem upd_old {α β} [DecidableEq α] {f : α → β} {a x : α} {b y : β} (h : upd f a b x = y) (hb : b ≠ y) : f x = y :=
  (upd_eq h).elim (fun e => absurd e.2 hb) (·.2)

@[simp] theorem upd_tmp_key (f : Name → Option Nat) (t k : Nat) (b : Option Nat) : upd f (.tmp t) b (.key k) = f (.key k) :=
  upd_ne f b nofun

/-- The states a quiet step may put a thread into. -/
def Benign (s : Sys) (a : Act) : Thread → Prop
  | .putWriting .. => False
  | .getReading k i => s.names (.key k) = some i
  | .putStart k v n => ∃ tid, a = .spawnPut tid k v n
  | _ => True

/-- What a step does, as far as the invariants look.  Of an inode they read whose it is (`key`, `val`, `total`) and
    whether it is complete: a chunk write changes neither, since it goes to an incomplete inode.  A key name is an old
    one or the complete file of a writer for that key that is done afterwards (`putCommit`). -/
structure Quiet (s : Sys) (a : Act) (s' : Sys) : Prop where
  inodes : ∀ i, (s'.inodes i).key = (s.inodes i).key ∧ (s'.inodes i).val = (s.inodes i).val ∧
    (s'.inodes i).total = (s.inodes i).total ∧
    ((s.inodes i).written = (s.inodes i).total → (s'.inodes i).written = (s'.inodes i).total)
  nextIno : s'.nextIno = s.nextIno
  nextTmp : s'.nextTmp = s.nextTmp
  names : ∀ k i, s'.names (.key k) = some i → s.names (.key k) = some i ∨
    ∃ tid v t n, s.threads tid = .putWriting k v t i n ∧ (s.inodes i).written = (s.inodes i).total ∧ s'.threads tid = .done
  threads : ∀ tid th, s'.threads tid = th → s.threads tid = th ∨ Benign s a th

theorem Quiet.refl {s : Sys} {a : Act} : Quiet s a s :=
  ⟨fun _ => ⟨rfl, rfl, rfl, id⟩, rfl, rfl, fun _ _ => .inl, fun _ _ => .inl⟩

theorem benign_upd {s : Sys} {a : Act} (tid : Nat) {th : Thread} (hb : Benign s a th) (tid' : Nat) (th' : Thread)
    (h : upd s.threads tid th tid' = th') : s.threads tid' = th' ∨ Benign s a th' :=
  (upd_eq h).elim (fun e => .inr (e.2 ▸ hb)) (.inl ·.2)

theorem Quiet.setThread {s : Sys} {a : Act} {tid : Nat} {th : Thread} (hb : Benign s a th) :
    Quiet s a { s with threads := upd s.threads tid th } :=
  ⟨fun _ => ⟨rfl, rfl, rfl, id⟩, rfl, rfl, fun _ _ => .inl, benign_upd tid hb⟩

theorem step_quiet (s : Sys) (a : Act) (ha : ∀ tid, a ≠ .putPrepare tid) : Quiet s a (step s a).1 := by
  cases a with
  | putPrepare tid => exact absurd rfl (ha tid)
  | spawnPut tid k v n =>
    simp only [step]; fun_cases spawnPut s tid k v n
    · exact .setThread ⟨tid, rfl⟩
    · exact .refl
  | spawnGet tid k =>
    simp only [step]; fun_cases spawnGet s tid k
    · exact .setThread trivial
    · exact .refl
  | getOpen tid =>
    simp only [step]; fun_cases getOpen s tid
    next hi => exact .setThread hi
    · exact .setThread trivial
    · exact .setThread trivial
    · exact .refl
  | extOpen tid =>
    simp only [step]; fun_cases extOpen s tid
    next hi => exact .setThread hi
    · exact .setThread trivial
    · exact .refl
  | getRead tid =>
    simp only [step]; fun_cases getRead s tid
    · exact .setThread trivial
    · exact .refl
  | putWrite tid =>
    simp only [step]; fun_cases putWrite s tid
    next i _ _ hlt =>
      refine ⟨fun j => ?_, rfl, rfl, fun _ _ => .inl, fun _ _ => .inl⟩
      by_cases e : j = i
      · subst e; simpa using fun e => absurd e (Nat.ne_of_lt hlt)
      · simp [upd_ne _ _ e]
    · exact .refl
    · exact .refl
  | putCommit tid =>
    simp only [step]; fun_cases putCommit s tid
    next k v t i n hth hfull =>
      refine ⟨fun _ => ⟨rfl, rfl, rfl, id⟩, rfl, rfl, fun k' i' hi => ?_, benign_upd tid (th := .done) trivial⟩
      rcases upd_eq hi with ⟨ek, ei⟩ | ⟨_, hi⟩
      · cases ek; cases ei; exact .inr ⟨tid, v, t, n, hth, hfull, upd_same _ _ _⟩
      · exact .inl (by simpa using hi)
    · exact .refl
    · exact .refl
  | putAbort tid =>
    simp only [step]; fun_cases putAbort s tid
    · exact ⟨fun _ => ⟨rfl, rfl, rfl, id⟩, rfl, rfl, fun k i hi => .inl (by simpa using hi), benign_upd tid (th := .done) trivial⟩
    · exact .refl
  | evict k => exact ⟨fun _ => ⟨rfl, rfl, rfl, id⟩, rfl, rfl, fun _ _ hi => .inl (upd_old hi nofun), fun _ _ => .inl⟩
  | crash => exact ⟨fun _ => ⟨rfl, rfl, rfl, id⟩, rfl, rfl, fun _ _ => .inl, fun _ _ e => .inr (e ▸ trivial)⟩

theorem inv_init : AInv Sys.init := ⟨nofun, nofun, nofun, nofun⟩

/-- Old facts move along `q.inodes`.  A newly bound inode is complete by the commit guard, and it was its writer's
    alone (`writersDistinct`), so the inode of a thread still writing stays unbound. -/
theorem AInv.quiet {s s' : Sys} {a : Act} (h : AInv s) (q : Quiet s a s') : AInv s' := by
  have wr : ∀ {tid k v t i n}, s'.threads tid = .putWriting k v t i n → s.threads tid = .putWriting k v t i n :=
    fun ht => (q.threads _ _ ht).resolve_right id   -- `Benign s a (.putWriting ..)` is `False`
  have mv : ∀ {k i}, i < s.nextIno ∧ (s.inodes i).key = k ∧ (s.inodes i).written = (s.inodes i).total →
      i < s'.nextIno ∧ (s'.inodes i).key = k ∧ (s'.inodes i).written = (s'.inodes i).total :=
    fun {_ i} ⟨h1, h2, h3⟩ => ⟨q.nextIno ▸ h1, (q.inodes i).1 ▸ h2, (q.inodes i).2.2.2 h3⟩
  refine ⟨fun k i hi => mv ?_, fun tid k v t i n ht => ?_,
    fun _ _ _ _ _ _ _ _ _ _ _ _ h1 h2 => h.writersDistinct _ _ _ _ _ _ _ _ _ _ _ _ (wr h1) (wr h2),
    -- a reader is an old reader, or `Benign`: it reads an inode its key is bound to
    fun tid k i ht => mv ((q.threads tid _ ht).elim (h.reader tid k i) (h.bound k i))⟩
  · rcases q.names k i hi with hb | ⟨tid, v, t, n, hw, hfull, _⟩
    · exact h.bound k i hb
    · exact have w := h.writer _ _ _ _ _ _ hw; ⟨w.1, w.2.2.1, hfull⟩
  · obtain ⟨h1, h2, h3, h4, h5, h6⟩ := h.writer _ _ _ _ _ _ (wr ht)
    obtain ⟨e1, e2, e3, _⟩ := q.inodes i
    rw [q.nextIno, q.nextTmp, e1, e2, e3]
    refine ⟨h1, h2, h3, h4, h5, fun k' hi => ?_⟩
    rcases q.names k' i hi with hb | ⟨tid', _, _, _, hw, _, hd⟩
    · exact h6 k' hb
    · have hne : tid ≠ tid' := fun e => by subst e; rw [hd] at ht; cases ht
      exact h.writersDistinct _ _ _ _ _ _ _ _ _ _ _ _ (wr ht) hw hne rfl

/-- The fresh inode `nextIno` is above everything the invariant speaks of, so old facts survive the allocation. -/
theorem inv_putPrepare {s : Sys} (h : AInv s) (tid : Nat) : AInv (putPrepare s tid).1 := by
  unfold putPrepare; split
  next k v total _ =>
    have old : ∀ {i}, i < s.nextIno → upd s.inodes s.nextIno ⟨k, v, 0, total⟩ i = s.inodes i :=
      fun hi => upd_ne _ _ (Nat.ne_of_lt hi)
    have unbound : ∀ k', s.names (.key k') ≠ some s.nextIno := fun k' e => Nat.lt_irrefl _ (h.bound k' _ e).1
    refine ⟨?_, ?_, ?_, ?_⟩
    · intro k' i hi
      have hb := h.bound k' i (by simpa using hi)
      simpa [old hb.1] using ⟨Nat.lt_succ_of_lt hb.1, hb.2⟩
    · intro tid' k' v' t i n ht
      rcases upd_eq ht with ⟨_, e⟩ | ⟨_, ht⟩
      · cases e; simpa using unbound
      · obtain ⟨h1, h2, h3⟩ := h.writer tid' k' v' t i n ht
        simpa [old h1] using ⟨Nat.lt_succ_of_lt h1, Nat.lt_succ_of_lt h2, h3⟩
    · intro t1 t2 k1 v1 p1 i1 n1 k2 v2 p2 i2 n2 h1 h2 hne
      rcases upd_eq h1 with ⟨e1, w1⟩ | ⟨_, h1⟩ <;> rcases upd_eq h2 with ⟨e2, w2⟩ | ⟨_, h2⟩
      · exact absurd (e1.trans e2.symm) hne
      · cases w1; exact Nat.ne_of_gt (h.writer _ _ _ _ _ _ h2).1
      · cases w2; exact Nat.ne_of_lt (h.writer _ _ _ _ _ _ h1).1
      · exact h.writersDistinct _ _ _ _ _ _ _ _ _ _ _ _ h1 h2 hne
    · intro tid' k' i ht
      have hr := h.reader tid' k' i (upd_old ht nofun)
      simpa [old hr.1] using ⟨Nat.lt_succ_of_lt hr.1, hr.2⟩
  next => exact h

theorem inv_step (s : Sys) (h : AInv s) (a : Act) : AInv (step s a).1 := by
  cases a with
  | putPrepare tid => exact inv_putPrepare h tid
  | _ => exact h.quiet (step_quiet s _ nofun)

/-- C10: a file that a key name is bound to is never written through, whatever step comes next -/
theorem bound_inode_untouched {s : Sys} (h : AInv s) {k i : Nat} (hb : s.names (.key k) = some i) (a : Act) :
    (step s a).1.inodes i = s.inodes i := by
  obtain ⟨hlt, -, hfull⟩ := h.bound k i hb
  by_cases hp : ∃ tid, a = .putPrepare tid
  · -- the allocation takes the fresh inode number `nextIno`, above `i`
    obtain ⟨tid, rfl⟩ := hp
    simp only [step]
    fun_cases putPrepare s tid
    · exact upd_ne _ _ (Nat.ne_of_lt hlt)
    · rfl
  · -- a quiet step keeps whose the inode is and keeps a complete inode complete, so `written` follows `total`
    obtain ⟨e1, e2, e3, e4⟩ := (step_quiet s a fun tid e => hp ⟨tid, e⟩).inodes i
    have e5 := e4 hfull
    revert e1 e2 e3 e5
    generalize (step s a).1.inodes i = c'
    cases c'; cases hc : s.inodes i
    simp_all

theorem run_eq_foldl (s : Sys) (acts : List Act) : run s acts = acts.foldl (fun s a => (step s a).1) s := by
  induction acts generalizing s with
  | nil => rfl
  | cons a as ih => exact ih _

theorem run_rec {P : Sys → Prop} {s : Sys} (acts : List Act) (h0 : P s)
    (hs : ∀ s, P s → ∀ a ∈ acts, P (step s a).1) : P (run s acts) :=
  run_eq_foldl s acts ▸ List.foldlRecOn acts _ h0 hs

theorem inv_run (acts : List Act) (s : Sys) (h : AInv s) : AInv (run s acts) :=
  run_rec acts h fun s h a _ => inv_step s h a

theorem reachable (acts : List Act) : AInv (run Sys.init acts) := inv_run acts _ inv_init

theorem step_hit {s : Sys} {a : Act} {tid : Nat} {c : Content} (h : (step s a).2 = .hit tid c) :
    a = .getRead tid ∧ ∃ k i, s.threads tid = .getReading k i ∧ c = s.inodes i := by
  cases a with
  | getRead t =>
    simp only [step, getRead] at h
    split at h
    next k i hth => cases h; exact ⟨rfl, k, i, hth, rfl⟩
    next => cases h
  | _ =>
    -- no other action has a branch that answers `hit`
    simp only [step, spawnPut, spawnGet, putPrepare, putWrite, putCommit, putAbort, getOpen, extOpen] at h
    repeat' split at h
    all_goals cases h

/-! Provenance: the content `(key, val, total)` of every inode, and of every store not yet prepared, satisfies `R`,
    for any `R` that holds of every store the history spawns. -/

def Requested (hist : List Act) (k v total : Nat) : Prop := ∃ tid, Act.spawnPut tid k v total ∈ hist

structure Prov (R : Nat → Nat → Nat → Prop) (s : Sys) : Prop where
  inode : ∀ i, i < s.nextIno → R (s.inodes i).key (s.inodes i).val (s.inodes i).total
  start : ∀ tid k v total, s.threads tid = .putStart k v total → R k v total

theorem prov_init {R : Nat → Nat → Nat → Prop} : Prov R Sys.init := ⟨nofun, nofun⟩

theorem Prov.quiet {R : Nat → Nat → Nat → Prop} {s s' : Sys} {a : Act} (h : Prov R s) (q : Quiet s a s')
    (ha : ∀ tid k v n, a = .spawnPut tid k v n → R k v n) : Prov R s' := by
  refine ⟨fun i hi => ?_, fun tid k v n ht => (q.threads tid _ ht).elim (h.start tid k v n) fun ⟨tid', e⟩ => ha tid' k v n e⟩
  obtain ⟨e1, e2, e3, _⟩ := q.inodes i
  rw [e1, e2, e3]; exact h.inode i (q.nextIno ▸ hi)

theorem prov_step {R : Nat → Nat → Nat → Prop} {s : Sys} (h : Prov R s) (a : Act) (ha : ∀ tid k v n, a = .spawnPut tid k v n → R k v n) :
    Prov R (step s a).1 := by
  cases a with
  | putPrepare tid =>
    -- the new inode carries what its thread was started with
    simp only [step]; fun_cases putPrepare s tid
    next k v total hth =>
      refine ⟨fun i hi => ?_, fun _ _ _ _ ht => h.start _ _ _ _ (upd_old ht nofun)⟩
      by_cases e : i = s.nextIno
      · subst e; simpa using h.start tid k v total hth
      · simpa [upd_ne _ _ e] using h.inode i (by simp at hi; omega)
    · exact h
  | _ => exact h.quiet (step_quiet s _ nofun) ha

theorem hit_sound {acts : List Act} {a : Act} {tid : Nat} {c : Content} (h : (step (run Sys.init acts) a).2 = .hit tid c) :
    a = .getRead tid ∧ c.written = c.total ∧ Requested acts c.key c.val c.total ∧
      ∃ i, (run Sys.init acts).threads tid = .getReading c.key i := by
  obtain ⟨ha, k, i, hth, rfl⟩ := step_hit h
  have hr := (reachable acts).reader tid k i hth
  have hp : Prov (Requested acts) (run Sys.init acts) :=
    run_rec acts prov_init fun _ hp a hm => prov_step hp a fun tid k v n e => ⟨tid, e ▸ hm⟩
  exact ⟨ha, hr.2.2, hp.inode i hr.1, i, hr.2.1 ▸ hth⟩

/-- C06 `get_complete`: in every interleaving, whatever a lookup returns is the complete value of a store to that key -/
theorem get_complete : GetComplete := fun _ _ _ _ h =>
  have ⟨_, hw, _, i, hth⟩ := hit_sound h
  ⟨_, i, hth, rfl, hw⟩

/-- C06 `crash_safe`: a crash at any point plus the start-up scan leaves no temporary name, index = key files, every key file complete -/
theorem crash_safe : CrashSafe := fun acts =>
  ⟨fun _ => rfl, fun _ => rfl, fun k i hi => ((reachable acts).bound k i hi).2⟩

/-- C06 `get_stored_value`: what a lookup returns is what some `put` of the history was asked to store under exactly that key -/
theorem get_stored_value (acts : List Act) (tid : Nat) (c : Content)
    (h : (step (run Sys.init acts) (.getRead tid)).2 = .hit tid c) :
    Requested acts c.key c.val c.total ∧ c.written = c.total ∧
      ∃ i, (run Sys.init acts).threads tid = .getReading c.key i :=
  have ⟨_, hw, hq, hi⟩ := hit_sound h
  ⟨hq, hw, hi⟩

#print axioms get_complete
#print axioms crash_safe

/-- non-vacuity: a concrete schedule with two overlapping stores to key 7 and a reader that opened
    before the second commit; the reader gets the complete first value, a later reader the second -/
def demoActs : List Act :=
  [.spawnPut 0 7 100 2, .putPrepare 0, .putWrite 0, .spawnPut 1 7 200 1, .putPrepare 1, .putWrite 0,
   .putCommit 0, .spawnGet 2 7, .getOpen 2, .putWrite 1, .putCommit 1, .spawnGet 3 7, .getOpen 3]

example : (match (step (run Sys.init demoActs) (.getRead 2)).2 with
           | .hit _ c => c.val == 100 && c.written == 2 && c.total == 2 | _ => false) = true := by decide
example : (match (step (run Sys.init demoActs) (.getRead 3)).2 with
           | .hit _ c => c.val == 200 && c.written == 1 | _ => false) = true := by decide
/-- a crash in the middle of the second store leaves key 7 bound to the complete first value and no temp name -/
example : (let s := (step (run Sys.init (demoActs.take 10)) .crash).1
           (s.names (.tmp 1)).isNone && (match s.names (.key 7) with | some i => (s.inodes i).val == 100 | none => false)) = true := by decide

end AtomicM
