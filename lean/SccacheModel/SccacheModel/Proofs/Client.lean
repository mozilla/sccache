import SccacheModel.Model.Client

/-! C11, read off `clientDecide`: exit status 0 is only ever a 0 the server reported, a connection closed after the
    acknowledgement degrades to a local compile, and a server lost before it is an sccache error. -/
namespace ClientM

theorem exit0_only_if_true_result (ig : Bool) (f : First) (s : Second) :
    clientDecide ig f s = .deliver 0 → f = .compileStarted ∧ ∃ sg, s = .finished (some 0) sg := by
  fun_cases clientDecide ig f s <;> simp

theorem ack_then_eof_local (ig : Bool) : clientDecide ig .compileStarted .eof = .localCompile := rfl

theorem lost_before_ack (ig : Bool) (s : Second) : clientDecide ig .ioError s = .sccacheError := rfl

end ClientM
