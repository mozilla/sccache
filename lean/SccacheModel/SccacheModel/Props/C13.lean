import SccacheModel.Proofs.Dist
import SccacheModel.Model.ClientTc
import SccacheModel.Gen.Args

/-! # C13 — distributed compiles match local ones in artefacts and status, or fall back

Model: `DistM` (`Model/Dist.lean`): `distDecide` = `dist_or_local_compile` over the stages (toolchain put, allocation,
toolchain submit, run, output files written one by one, rewrite) with an error class at each stage; `ofRemoteFixed` /
`codeOfRaw` = the mapping of the remote exit code back to a process status after the `fix:` commit for F-C13-a.
Tie: `h_dist` — the real `get_cached_or_compile` with an own implementation of the public `dist::Client` trait that
fails at every stage with every error class and returns remote exit codes 1, 2, 42, 127, 255 — + `modeld dist`.
Cannot run here: a real build server needs bubblewrap or docker (absent): toolchain packaging and the sandbox are not
exercised end to end — partial. -/

namespace C13
open DistM

/-! ## the client's toolchain map (`ClientTcM`): "a local toolchain cache too small for the packaged toolchain is reported" — every time -/

open ClientTcM in
theorem clientTc_inv_init (size : Nat → Nat) (cap : Nat) : Inv size { cap := cap } := by
  intro w i h; simp at h

open ClientTcM in
theorem clientTc_inv_put (size idOf : Nat → Nat) (s : St) (w : Nat) (h : Inv size s) : Inv size (put size idOf s w).1 ∧ (put size idOf s w).1.cap = s.cap := by
  unfold put
  split
  · exact ⟨h, rfl⟩
  · split
    · exact ⟨h, rfl⟩
    next hle =>
      refine ⟨fun w' i hm => ?_, rfl⟩
      rcases List.mem_cons.mp hm with e | hm
      · cases e; exact Nat.le_of_not_gt hle
      · exact h w' i hm

open ClientTcM in
/-- a toolchain that does not fit is never in the map, so `put_toolchain` reports it in **every** state the invariant holds in -/
theorem clientTc_too_small_reported (size idOf : Nat → Nat) (s : St) (w : Nat) (h : Inv size s) (hs : size w > s.cap) :
    put size idOf s w = (s, .tooLarge) := by
  unfold put
  cases hl : s.weak.lookup w with
  | some i =>
    obtain ⟨l1, l2, he, _⟩ := List.lookup_eq_some_iff.mp hl
    have := h w i (he ▸ List.mem_append_right l1 List.mem_cons_self)
    omega
  | none => simp [hs]

open ClientTcM in
/-- `too_small_reported_every_time`: over **every** history of requests (with restarts, which keep the persisted map) starting from an
    empty map, each request for a compiler whose packaged toolchain does not fit the local toolchain cache ends in the
    "could not cache dist toolchain" error — the first one and every later one -/
theorem too_small_reported_every_time (size idOf : Nat → Nat) (cap : Nat) (ws : List Nat) :
    ∀ (s : St), Inv size s → s.cap = cap →
      ∀ k (hk : k < ws.length), size ws[k] > cap → (run size idOf s ws).2[k]? = some .tooLarge := by
  induction ws with
  | nil => intro s _ _ k hk; simp at hk
  | cons w ws ih =>
    intro s hinv hcap k hk hsz
    simp only [run]
    obtain ⟨hinv', hcap'⟩ := clientTc_inv_put size idOf s w hinv
    cases k with
    | zero =>
      simp only [List.getElem_cons_zero] at hsz
      rw [clientTc_too_small_reported size idOf s w hinv (by omega)]
      simp
    | succ k =>
      exact ih _ hinv' (by omega) k (by simpa using hk) hsz

open ClientTcM in
/-- non-vacuity: cache of 10 bytes, compiler 1 packs to 50 bytes, compiler 2 to 5: requests 1 2 1 2 1 -/
example : (run (fun w => if w = 1 then 50 else 5) (· + 100) { cap := 10 } [1, 2, 1, 2, 1]).2 =
    [.tooLarge, .ok 102, .tooLarge, .ok 102, .tooLarge] := by decide

/-- `fallback_total`: over **every** stage and error class, the only way a request ends in an sccache error is an
    HTTP-4xx rejection or a toolchain that does not fit the local toolchain cache -/
theorem fallback_total (d c : Bool) (f : Option (Stage × ErrClass)) :
    distDecide d c f = .error → ∃ st e, f = some (st, e) ∧ (e = .http4xx ∨ e = .toolchainTooLarge) :=
  DistM.fallback_total d c f

/-- every other failure, at every stage, falls back to the local compiler; no failure yields the remote result -/
theorem other_failures_fall_back (st : Stage) : distDecide true true (some (st, .other)) = .local_ := rfl

theorem remote_only_without_failure (d c : Bool) (f : Option (Stage × ErrClass)) (h : distDecide d c f = .remote) :
    d = true ∧ c = true ∧ f = none := by
  revert h
  fun_cases distDecide d c f <;> simp_all

/-- `cleanup_complete`: after a failure while writing output *j*, `try_or_cleanup` leaves none of the outputs written
    so far before the local compile rewrites them -/
theorem cleanup_complete (written : List Nat) : leftovers written true = [] := rfl

/-- `exit_status_roundtrip` (after the fix of F-C13-a): every remote exit code 0…255 comes back as that exit code -/
theorem exit_status_roundtrip (c : Nat) (h : c < 256) : codeOfRaw (ofRemoteFixed c) = some c :=
  DistM.exit_status_roundtrip_fixed c h

/-- F-C13-a (negative, kernel-checked, **pinned** mapping): remote exit code 1 came back as "killed by signal 1".
    Repaired in /repo by a `fix:` commit. -/
theorem exit_status_pinned_witness : codeOfRaw (ofRemotePinned 1) = none ∧ signalOfRaw (ofRemotePinned 1) = some 1 :=
  DistM.exit_status_pinned_witness

/-! ## the argument vector that travels (`ArgsM.distRegen`, tied by `h_args` on both `rewrite_includes_only` settings) -/
open ArgsM in
/-- `dist_command_shape`: whenever a request is distributed, the remote compiler gets — in this order — the language (`-x …`, the
    `…-cpp-output` form unless includes are only rewritten), the compilation flag, the input, `-o` output, for gcc
    `[-fdirectives-only] -fpreprocessed`, and then **all common (hashed) arguments, in order and nothing after them**.
    Preprocessor and dependency arguments stay with the local preprocessing step. -/
theorem dist_command_shape (gcc rio : Bool) (p : Parsed) (d : List Bytes) (h : distRegen gcc rio p = some d) :
    ∃ l, distLang rio p = some l ∧ d = distHead gcc rio p l ++ p.common ∧ (distHead gcc rio p l).length ≤ 8 := by
  revert h
  fun_cases distRegen gcc rio p with
  | case1 | case2 | case4 => intro h; cases h
  | case3 _ l hl _ =>
    intro h
    cases h
    refine ⟨l, hl, rfl, ?_⟩
    unfold distHead
    cases l <;> cases gcc <;> simp <;> split <;> simp

open ArgsM in
/-- a request with `-v` / `--verbose` among its arguments, and CUDA, always compile locally -/
theorem verbose_and_cuda_stay_local (gcc rio : Bool) (p : Parsed)
    (h : (regen p).contains (sb "-v") = true ∨ (regen p).contains (sb "--verbose") = true ∨ p.lang = .cuda) :
    distRegen gcc rio p = none := by
  have : distLocalOnly p = true := by
    simp only [distLocalOnly, Bool.or_eq_true, beq_iff_eq]
    exact or_assoc.2 h
  simp [distRegen, this]

end C13
