import SccacheModel.Proofs.Entry

/-! # C08 — the cache entry encoding round-trips exactly and detects corruption

Model: `EntryM.archive` (`Model/Entry.lean`) = the bytes `CacheWrite` emits through `zip 0.6.6` (Stored members
holding zstd frames, unix mode in the external attributes, fixed DOS time, central directory, end record);
`EntryM.openArchive` / `getStored` (`Model/EntryRead.lean`) = what `CacheRead::from` / `get_object` do before zstd
decoding (end-record search from the end, ZIP64-locator probe, central directory, `by_name`, local header skip,
`take(compressed_size)`, CRC-32 check).  zstd is a parameter `(enc, dec)`.
Tie: `h_entry` — writer byte-exact, reader on every truncation and on substitutions at every position of small entries. -/

namespace C08
open EntryM

/-- `roundtrip`: for **every** list of members with distinct valid-UTF-8 names shorter than 2^16, any stored bytes
    (archive below 4 GiB), any mode, written archives open, every member comes back with exactly its stored bytes and
    the nine permission bits of its mode, and no other name resolves. -/
theorem roundtrip (ms : List Member) (h : WF ms) :
    ∃ a, openArchive (archive ms) = some a ∧
      (∀ m ∈ ms, getStored a m.name = some (m.frame, some (permsOf m))) ∧
      (∀ nm, nm ∉ ms.map (·.name) → getStored a nm = none) := EntryM.roundtrip ms h

/-- the same with the codec made explicit: whatever contents are compressed by any `enc` with a left inverse `dec`
    (zstd), unpacking and decoding yields byte-identical contents — files, stdout and stderr alike. -/
theorem codec_roundtrip (enc : Bytes → Bytes) (dec : Bytes → Option Bytes) (hcodec : ∀ x, dec (enc x) = some x)
    (objs : List (Bytes × Option Nat × Bytes))
    (h : WF (objs.map fun o => ({ name := o.1, mode := o.2.1, frame := enc o.2.2 } : Member))) :
    ∃ a, openArchive (archive (objs.map fun o => ({ name := o.1, mode := o.2.1, frame := enc o.2.2 } : Member))) = some a ∧
      ∀ o ∈ objs, ((getStored a o.1).bind fun r => dec r.1) = some o.2.2 := by
  obtain ⟨a, ha, hall, _⟩ := EntryM.roundtrip _ h
  refine ⟨a, ha, ?_⟩
  intro o ho
  have := hall { name := o.1, mode := o.2.1, frame := enc o.2.2 } (List.mem_map.mpr ⟨o, ho, rfl⟩)
  rw [this]
  simp [hcodec]

/-- `crc_single_byte`: substituting one byte anywhere in any byte string changes its CRC-32 -/
theorem crc_single_byte (pre suf : List UInt8) (a b : UInt8) (hab : a ≠ b) :
    crcBV (pre ++ [a] ++ suf) ≠ crcBV (pre ++ [b] ++ suf) := EntryM.crc_single_byte pre suf a b hab

/-- `payload_substitution_detected`: in the archive of **any** well-formed entry, replacing **any** one byte inside
    **any** member's stored bytes by a different value leaves an archive from which that member can no longer be read
    (so the request becomes a miss) — it never silently yields different contents. -/
theorem payload_substitution_detected (ms : List Member) (h : WF ms) (m : Member) (off : Nat)
    (hp : (m, off) ∈ layout 0 ms) (i : Nat) (hi : i < m.frame.length) (b : UInt8) (hb : b ≠ m.frame[i]) :
    ∃ a, openArchive ((archive ms).set (off + (localHeader m).length + i) b) = some a ∧
      getStored a m.name = none := EntryM.payload_substitution_detected ms h m off hp i hi b hb

/-- F-C08-a (negative, kernel-checked): a last member whose name carries the ZIP64 locator signature 42 bytes before
    the end of the archive makes an *intact* entry unreadable (permanent miss; never wrong contents). This is the
    region `WF.no_zip64_sig` excludes. -/
theorem zip64_name_witness : openArchive (archive [exObj, exZip64Name]) = none ∧
    sigAt (archive [exObj, exZip64Name]) ((archive [exObj, exZip64Name]).length - 42) [80, 75, 6, 7] = true :=
  EntryM.zip64_name_witness

/-- non-vacuity: an ordinary entry (an object file with mode 0755 and a stderr stream) satisfies `WF` -/
example : WF [exObj, exErr] := wf_example

end C08
