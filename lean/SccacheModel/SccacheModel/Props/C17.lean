import SccacheModel.Proofs.TcCache

/-! # C17 — the toolchain cache only ever serves content matching the requested id

Model: `TcM` (`Model/TcCache.lean`): the toolchain cache at content level, `Store : id ↦ digest of the bytes stored
under that id`; LRU evictions of the underlying disk cache are *arbitrary* `evict` steps (any id, any moment), which
over-approximates `LruDiskCache` (C07). `tcStepFixed` is `TcCache::insert_with` after the `fix:` commit (a mismatching
upload is removed again). Tie: `h_tc` (real `dist::TcCache`, honest and dishonest uploads, small capacities) + `modeld tc`. -/

namespace C17
open TcM

/-- `tc_sound`: for **every** history of uploads under a declared id (content matching or not), insert-file,
    removals, evictions at any moment and reopenings, whatever the cache holds under an id — i.e. whatever
    `contains_toolchain` reports and `get` returns — has content whose digest is that id. -/
theorem tc_sound (ops : List TcOp) : ∀ id d, (ops.foldl tcStepFixed (fun _ => none)) id = some d → d = id :=
  TcM.tc_sound ops

/-- a mismatching upload leaves nothing behind under that id (in any state) -/
theorem mismatching_upload_leaves_nothing (s : Store) (id d : Nat) (h : d ≠ id) :
    (tcStepFixed s (.insertWith id d)) id = none := by
  simp [tcStepFixed, h, supd]

/-- non-vacuity: an honest upload is present afterwards -/
example : ([TcOp.insertWith 3 3, .insertWith 1 2].foldl tcStepFixed (fun _ => none)) 3 = some 3 := by decide

/-- F-C17-a (negative, kernel-checked, **pinned** `insert_with`): a mismatching upload stayed under the declared id.
    Repaired in /repo by a `fix:` commit. -/
theorem pinned_witness : ([TcOp.insertWith 1 2].foldl tcStepPinned (fun _ => none)) 1 = some 2 := TcM.tc_pinned_witness

end C17
