import SccacheModel.Proofs.Stats

/-! # C14 — server statistics account for every request exactly once

Model: `StatsM` (`Model/Stats.lean`): the statistics are a fold of counter increments; which counters an outcome
increments (`incsOfOutcome`, `incsOfRequest`) is **regenerated from `check_compiler` / `start_compile_task` in
`src/server.rs` on every run** (`Gen/StatsTable.lean`), so the laws below are re-proved against the increments the
code performs now. Concurrency: every increment happens under one mutex, so a concurrent history is some
interleaving of the per-request increment lists, and the counters do not depend on which one.
Tie: translator + `tools/sys_c14.py` (real server and clients, sequential and concurrent histories, `--zero-stats`,
read-only cache) + `modeld stats`. -/

namespace C14
open StatsM

/-- the number of compile requests equals executed + non-cacheable + non-compilation + unsupported-compiler -/
theorem law_requests (reqs : List Disp) :
    cnt reqs .compileRequests = cnt reqs .executed + cnt reqs .notCacheable + cnt reqs .notCompile + cnt reqs .unsupported :=
  StatsM.law_requests reqs

/-- successful plus failed cache writes equal the number of misses -/
theorem law_writes (reqs : List Disp) :
    cnt reqs .cacheWrites + cnt reqs .cacheWriteErrors = cnt reqs .cacheMisses := StatsM.law_writes reqs

/-- as far as counters can say it: an executed request is a hit or compiles at most once — never both; every miss compiled -/
theorem law_compilations (reqs : List Disp) :
    cnt reqs .compilations + cnt reqs .cacheHits ≤ cnt reqs .executed ∧ cnt reqs .cacheMisses ≤ cnt reqs .compilations :=
  StatsM.law_compilations reqs

/-- ledger: the hit counter is exactly the number of requests answered from the cache -/
theorem ledger_hits (reqs : List Disp) : cnt reqs .cacheHits = (reqs.filter (· = .executed .hit)).length :=
  StatsM.ledger_hits reqs

/-- interleaving invariance: any two schedules of the same increments (concurrent clients) give the same counters -/
theorem stats_interleaving_invariant (l₁ l₂ : List Counter) (p : l₁.Perm l₂) : statsOf l₁ = statsOf l₂ :=
  StatsM.stats_interleaving_invariant l₁ l₂ p

/-- a history with `--zero-stats` in it (`none`): only what follows the last zero counts -/
def afterZero : List (Option Disp) → List Disp
  | [] => []
  | none :: rest => afterZero rest
  | some d :: rest => if rest.any Option.isNone then afterZero rest else d :: afterZero rest

/-- `zero_quiescent`: zeroing the statistics at a quiescent moment re-establishes every law for what follows -/
theorem zero_quiescent (ops : List (Option Disp)) :
    let r := afterZero ops
    cnt r .compileRequests = cnt r .executed + cnt r .notCacheable + cnt r .notCompile + cnt r .unsupported ∧
    cnt r .cacheWrites + cnt r .cacheWriteErrors = cnt r .cacheMisses :=
  ⟨StatsM.law_requests _, StatsM.law_writes _⟩

/-- non-vacuity: a concrete mixed history -/
example : cnt [.executed (.miss .normal true), .executed .hit, .notCompile, .executed .errProcess, .executed (.miss .cacheReadError false)] .compileRequests = 5 := by decide

end C14
