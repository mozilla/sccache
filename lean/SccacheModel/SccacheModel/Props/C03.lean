import SccacheModel.Props.C02
import SccacheModel.Proofs.Spec
import SccacheModel.Proofs.LruReadOnly
import SccacheModel.Proofs.RustKey

/-! # C03 — a repeated cacheable request is served from the cache, also after restart

Pieces: the key is a deterministic function of the request's components (C02 `key_complete`: nothing volatile enters
it); for rustc the key is invariant under reordering of `--cfg` / `--extern` / `-L` (`Proofs/RustKey.lean`); the L0
cache keeps an entry across unrelated requests, faults, restarts (`repeat_hits`); re-opening a cache directory that
is within its size limit indexes exactly the files that were there (`Proofs/LruReadOnly.lean`).
Tie: `h_key`, `h_lru` (reopen), and the system harness `tools/sys_transparency.py` (real `sccache` server + gcc: compile,
delete outputs, restart the server, compile again; classification from the statistics and a compiler invocation log). -/

namespace C03
open L0

/-- determinism of the key: requests that agree on every hashed component get the same key — for every hash function,
    with no side condition (no timestamp, temporary path or map iteration order is part of the pre-image) -/
theorem key_deterministic (H : CK.Bytes → CK.Bytes) (r₁ r₂ : CK.CReq) (s : C02.SameComponents r₁ r₂) :
    C02.key H r₁ = C02.key H r₂ := C02.key_complete H r₁ r₂ s

/-- the allow-list filter makes unrelated environment variables irrelevant: adding a variable whose name is not
    allow-listed leaves the pre-image unchanged -/
theorem unrelated_env_irrelevant (r : CK.CReq) (k v : CK.Bytes) (h : k ∉ CK.cCachedEnv) :
    CK.encHash { r with env := r.env ++ [(k, v)] } = CK.encHash r :=
  CK.encGen_env_irrelevant _ _ r [(k, v)] (by simpa using h)

/-- `repeat_hits`: once a successful compile of a request has been stored, then after **any** sequence of other
    requests (with or without storage faults), evictions and corruptions of *other* entries, and server restarts, the
    same request is answered from the cache without running the compiler. -/
theorem repeat_hits (cc : CC) (before after : List Ev) (fp : Nat) (hok : (cc fp).ok = true)
    (hkeep : ∀ e ∈ after, Keeps fp e) (sf : Bool) :
    let c := erun cc (fun _ => none) (before ++ [.request fp false false] ++ after)
    (estep cc c (.request fp false sf)).2 = some ⟨cc fp, false⟩ := L0.repeat_hits cc before after fp hok hkeep sf

/-- `reopen_preserves`: re-opening (server restart) a cache directory whose total size is within the limit keeps
    every file, whatever the mtime order -/
theorem reopen_preserves (c : LruM.Lru) (order : List (LruM.Key × Nat)) (hfit : (order.map (·.2)).sum ≤ c.cap) :
    (c.reopen order).files = order := LruM.Lru.reopen_keeps_files c order hfit

/-- rustc: any reordering that only moves the `--cfg` group among itself (and `--extern` / `-L`, which are not hashed
    as arguments at all) leaves the key pre-image unchanged -/
theorem rust_key_perm (r1 r2 : RustKeyM.RReq) (hrest : RustKeyM.restArgs r1 = RustKeyM.restArgs r2)
    (hcfg : (RustKeyM.cfgArgs r1).Perm (RustKeyM.cfgArgs r2))
    (h1 : r1.version = r2.version) (h2 : r1.shlibDigests = r2.shlibDigests) (h3 : r1.sourceHashes = r2.sourceHashes)
    (h4 : r1.externHashes = r2.externHashes) (h5 : r1.staticlibHashes = r2.staticlibHashes)
    (h6 : r1.targetJsonHash = r2.targetJsonHash) (h7 : r1.envDeps = r2.envDeps) (h8 : r1.cargoEnv = r2.cargoEnv)
    (h9 : r1.cwd = r2.cwd) (h10 : r1.rustcVersion = r2.rustcVersion) : RustKeyM.encRust r1 = RustKeyM.encRust r2 :=
  RustKeyM.rust_key_perm r1 r2 hrest hcfg h1 h2 h3 h4 h5 h6 h7 h8 h9 h10

end C03
