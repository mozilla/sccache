import SccacheModel.Proofs.KeyLangSep

/-! # C02 — the C/C++ cache key covers every result-affecting component, without aliasing

Model: `CK.encHash` / `CK.encPre` (`Model/Key.lean`) are the **pre-images** that `c::hash_key` and
`preprocessor_cache_entry_hash_key` feed to BLAKE3.  The language tags, `CACHE_VERSION`, `FORMAT_VERSION` and both
allow-lists are regenerated from the Rust sources on every run (`Gen/KeyConsts.lean`), so every theorem below is
re-checked against what the code says now.  Tie: `h_key` (byte-exact: `hex(blake3(model pre-image)) = real key`).
The hash itself is a parameter `H`; collisions of `H` are an explicit disjunct, never an axiom. -/

namespace C02
open CK

/-- two distinct pre-images with the same hash value -/
def Collision (H : Bytes → Bytes) (a b : Bytes) : Prop := a ≠ b ∧ H a = H b

/-- the cache key as the code computes it: hash of the pre-image -/
def key (H : Bytes → Bytes) (r : CReq) : Bytes := H (encHash r)

/-- agreement on every component the property lists (the language enters through its tag) -/
structure SameComponents (r₁ r₂ : CReq) : Prop where
  digest : r₁.digest = r₂.digest
  plusplus : r₁.plusplus = r₂.plusplus
  tag : langTagBytes r₁.lang = langTagBytes r₂.lang
  args : r₁.args = r₂.args
  extra : r₁.extra = r₂.extra
  env : canonEnv r₁ = canonEnv r₂
  pp : r₁.pp = r₂.pp

/-- the payload does not begin with something that could be read as the rest of a longer language tag -/
def NoTagExtension (r : CReq) : Prop := ∀ x ∈ tagExtensions, ¬ (x <+: r.pp)

/-- `encHash_components_inj`: for **all pairs** of well-formed requests with the same tag, equal pre-images force
    equal digest, driver mode, ordered argument list, extra digests, allow-listed environment and payload. -/
theorem encHash_components_inj (r₁ r₂ : CReq) (w₁ : WF r₁) (w₂ : WF r₂)
    (htag : langTagBytes r₁.lang = langTagBytes r₂.lang) (h : encHash r₁ = encHash r₂) :
    r₁.digest = r₂.digest ∧ r₁.plusplus = r₂.plusplus ∧ r₁.args = r₂.args ∧ r₁.extra = r₂.extra ∧
    canonEnv r₁ = canonEnv r₂ ∧ r₁.pp = r₂.pp := CK.encHash_components_inj r₁ r₂ w₁ w₂ htag h

/-- `encHash_lang_sep`: equal pre-images force equal language tags (payloads not starting with a tag extension) -/
theorem encHash_lang_sep (r₁ r₂ : CReq) (w₁ : WF r₁) (w₂ : WF r₂) (e₁ : NoTagExtension r₁) (e₂ : NoTagExtension r₂)
    (h : encHash r₁ = encHash r₂) : langTagBytes r₁.lang = langTagBytes r₂.lang :=
  CK.encHash_lang_sep r₁ r₂ w₁ w₂ (fun x hx => ⟨e₁ x hx, e₂ x hx⟩) h

/-- "only if": equal keys ⇒ equal components, or `H` collided on the two pre-images -/
theorem key_sound (H : Bytes → Bytes) (r₁ r₂ : CReq) (w₁ : WF r₁) (w₂ : WF r₂)
    (e₁ : NoTagExtension r₁) (e₂ : NoTagExtension r₂) (h : key H r₁ = key H r₂) :
    SameComponents r₁ r₂ ∨ Collision H (encHash r₁) (encHash r₂) := by
  by_cases he : encHash r₁ = encHash r₂
  · left
    have ht := encHash_lang_sep r₁ r₂ w₁ w₂ e₁ e₂ he
    obtain ⟨a, b, c, d, e, f⟩ := encHash_components_inj r₁ r₂ w₁ w₂ ht he
    exact ⟨a, b, ht, c, d, e, f⟩
  · right; exact ⟨he, h⟩

/-- `key_sound` read backwards: requests that differ in a hashed component get different keys, or `H` collided -/
theorem key_separates (H : Bytes → Bytes) (r₁ r₂ : CReq) (w₁ : WF r₁) (w₂ : WF r₂)
    (e₁ : NoTagExtension r₁) (e₂ : NoTagExtension r₂) (hd : ¬ SameComponents r₁ r₂) :
    key H r₁ ≠ key H r₂ ∨ Collision H (encHash r₁) (encHash r₂) := by
  by_cases hk : key H r₁ = key H r₂
  · exact .inr ((key_sound H r₁ r₂ w₁ w₂ e₁ e₂ hk).resolve_left hd)
  · exact .inl hk

/-- "if" (determinism, used by C03): equal components ⇒ equal key, for every `H`, no side conditions.
    In particular nothing volatile (time, paths of temporaries, map order) enters the key. -/
theorem key_complete (H : Bytes → Bytes) (r₁ r₂ : CReq) (s : SameComponents r₁ r₂) : key H r₁ = key H r₂ := by
  have he : canonEnvG cCachedEnv r₁ = canonEnvG cCachedEnv r₂ := s.env
  simp only [key, encHash, encGen, encEnv_eq, s.digest, s.plusplus, s.tag, s.args, s.extra, he, s.pp]

/-- no change of exactly one component (or of several) leaves the pre-image unchanged -/
theorem any_component_change_detected (r₁ r₂ : CReq) (w₁ : WF r₁) (w₂ : WF r₂)
    (htag : langTagBytes r₁.lang = langTagBytes r₂.lang)
    (hne : r₁.digest ≠ r₂.digest ∨ r₁.plusplus ≠ r₂.plusplus ∨ r₁.args ≠ r₂.args ∨ r₁.extra ≠ r₂.extra ∨
           canonEnv r₁ ≠ canonEnv r₂ ∨ r₁.pp ≠ r₂.pp) : encHash r₁ ≠ encHash r₂ := by
  intro h
  obtain ⟨a, b, c, d, e, f⟩ := encHash_components_inj r₁ r₂ w₁ w₂ htag h
  rcases hne with x | x | x | x | x | x
  · exact x a
  · exact x b
  · exact x c
  · exact x d
  · exact x e
  · exact x f

/-- no redistribution of bytes between neighbouring arguments (same concatenation, different boundaries) -/
theorem redistribution_detected (r₁ r₂ : CReq) (w₁ : WF r₁) (w₂ : WF r₂)
    (htag : langTagBytes r₁.lang = langTagBytes r₂.lang) (_hflat : r₁.args.flatten = r₂.args.flatten)
    (hne : r₁.args ≠ r₂.args) : encHash r₁ ≠ encHash r₂ :=
  any_component_change_detected r₁ r₂ w₁ w₂ htag (Or.inr (Or.inr (Or.inl hne)))

/-- well-formedness of a preprocessor-level request: the C part, an absolute NUL-free input path, a hex input digest -/
structure PWF (r : PReq) : Prop where
  digest : r.digest.length = 64 ∧ r.digest.all isHexLower = true
  extra : ∀ e ∈ r.extra, e.length = 64 ∧ e.all isHexLower = true
  args : ∀ a ∈ r.args, a.length < 2 ^ 56 ∧ (0 : UInt8) ∉ a
  env : ∀ kv ∈ r.env, kv.1.length < 2 ^ 56 ∧ kv.2.length < 2 ^ 56 ∧ (0 : UInt8) ∉ kv.1 ∧ (0 : UInt8) ∉ kv.2
  pathAbs : ∃ rest, r.path = 47 :: rest
  pathNul : (0 : UInt8) ∉ r.path
  inputDigest : r.inputDigest.length = 64 ∧ r.inputDigest.all isHexLower = true

theorem PWF.toC {r : PReq} (w : PWF r) : WF r.toC := by
  obtain ⟨rest, hp⟩ := w.pathAbs
  refine ⟨w.digest, w.extra, w.args, w.env, ?_, ?_⟩
  · show (0 : UInt8) ∉ r.path ++ r.inputDigest
    intro hm
    rcases List.mem_append.mp hm with h | h
    · exact w.pathNul h
    · exact absurd (List.all_eq_true.mp w.inputDigest.2 0 h) (by decide)
  · show startsWith64Hex (r.path ++ r.inputDigest) = false
    rw [hp]
    simp [startsWith64Hex, isHexLower]

/-- the preprocessor-level key additionally covers the input path, the input contents (through their digest) and
    the include-path variables (`ppCachedEnv` is regenerated from `preprocessor_cache.rs`) -/
theorem encPre_components_inj (ign : Bool) (r₁ r₂ : PReq) (w₁ : PWF r₁) (w₂ : PWF r₂)
    (htag : langTagBytes r₁.lang = langTagBytes r₂.lang) (b : Bytes)
    (h₁ : encPre ign r₁ = some b) (h₂ : encPre ign r₂ = some b) :
    r₁.digest = r₂.digest ∧ r₁.plusplus = r₂.plusplus ∧ r₁.args = r₂.args ∧ r₁.extra = r₂.extra ∧
    canonEnvG ppCachedEnv r₁.toC = canonEnvG ppCachedEnv r₂.toC ∧ r₁.path = r₂.path ∧ r₁.inputDigest = r₂.inputDigest := by
  obtain ⟨a, b', c, d, e, f⟩ := encGen_components_inj [ppFormatVersion] ppCachedEnv r₁.toC r₂.toC w₁.toC w₂.toC htag
    ((encPre_eq_some h₁).trans (encPre_eq_some h₂).symm)
  exact ⟨a, b', c, d, e, List.append_inj' f (w₁.inputDigest.1.trans w₂.inputDigest.1.symm)⟩

/-- tags are separated in the preprocessor-level key too, when the path does not begin with `/c++` -/
theorem encPre_lang_sep (ign : Bool) (r₁ r₂ : PReq) (w₁ : PWF r₁) (w₂ : PWF r₂)
    (e₁ : NoTagExtension r₁.toC) (e₂ : NoTagExtension r₂.toC) (b : Bytes)
    (h₁ : encPre ign r₁ = some b) (h₂ : encPre ign r₂ = some b) : langTagBytes r₁.lang = langTagBytes r₂.lang :=
  encGen_lang_sep [ppFormatVersion] ppCachedEnv r₁.toC r₂.toC w₁.toC w₂.toC (fun x hx => ⟨e₁ x hx, e₂ x hx⟩)
    ((encPre_eq_some h₁).trans (encPre_eq_some h₂).symm)

/-- an input containing `__TIME__` disables the preprocessor-level key unless time macros are ignored -/
theorem encPre_time_disables (r : PReq) (h : r.hasTime = true) : encPre false r = none := by simp [encPre, h]

/-! ## negative results (kernel-checked literal witnesses; replayed on the real functions by `h_key`) -/

def d0 : Bytes := List.replicate 64 48     -- sixty-four '0'

/-- F-C02-a: one pair of languages shares a tag, so requests that differ only in that language share a key.  (`CudaFE` is the
    language of the `cudafe++` compiler kind only, whose executable digest is part of the key: no request reaches both.) -/
theorem langTag_alias_witness :
    Lang.cuda ≠ Lang.cudaFE ∧ langTagBytes .cuda = langTagBytes .cudaFE := by decide

/-- F-C02-d (fixed 55dc400; was a real alias: `clang -x objective-c++-header -c h.h -o out` then `clang -x objective-c++ -c h.h -o out`
    delivered the precompiled header as the object): **every** pair of distinct languages other than `Cuda`/`CudaFE` has distinct tags
    (`decide` over the whole regenerated table) -/
theorem langTags_distinct_except_cudaFE :
    allLangs.all (fun l1 => allLangs.all fun l2 =>
      l1 == l2 || (l1 == .cuda && l2 == .cudaFE) || (l1 == .cudaFE && l2 == .cuda) || langTagBytes l1 != langTagBytes l2) = true := by
  decide

theorem objcxx_header_tag_fixed_witness : langTagBytes .objcxx ≠ langTagBytes .objcxxHeader := by decide

/-- F-C02-b: the tag is not delimited from what follows: `C` + payload `Header_t` ≡ `CHeader` + payload `_t` -/
theorem tag_payload_alias_witness :
    encHash { digest := d0, plusplus := false, lang := .c, args := [], extra := [], env := [], pp := [72, 101, 97, 100, 101, 114, 95, 116] } =
    encHash { digest := d0, plusplus := false, lang := .cHeader, args := [], extra := [], env := [], pp := [95, 116] } := by decide

/-- F-C02-c: extra-file digests are not delimited from the payload -/
theorem extras_payload_alias_witness :
    encHash { digest := d0, plusplus := false, lang := .c, args := [], extra := [d0], env := [], pp := [120] } =
    encHash { digest := d0, plusplus := false, lang := .c, args := [], extra := [], env := [], pp := d0 ++ [120] } := by decide

/-- non-vacuity: a concrete well-formed request with arguments, an allow-listed variable and a payload -/
example : WF { digest := d0, plusplus := true, lang := .cxx, args := [[45, 79, 50], []], extra := [d0],
               env := [([83, 68, 75, 82, 79, 79, 84], [47])], pp := [105, 110, 116, 32, 120, 59] } := by
  exact ⟨by decide, by decide, by decide, by decide, by decide, by decide⟩

end C02
