import SccacheModel.Proofs.Sched
import SccacheModel.Proofs.SchedWitness

/-! # C18 — scheduler job bookkeeping stays consistent under every message interleaving

Model: `SchedM.Sched` (`Model/Sched.lean`): `jobs`, per-server `assigned` / `unclaimed` / `cpus` / `nonce` / last error,
the job counter; the allocation handler as **three steps** (`allocChoose` under the servers lock with the exact
rational form of `load_weight` and the admissible-choice set, the unlocked assignment call, `allocRecordFixed` /
`allocFail`), heartbeat (same / fresh nonce), update with the transition table and owner check, status; time frozen.
Tie: hook H6 (`verif_driver` inside the `sccache-dist` crate: real `Scheduler`, nested handler calls inside a
scripted `do_assign_job`) + `modeld sched`; the server choice is acceptance-checked (hash-map order). -/

namespace C18
open SchedM SchedM.Sched

/-- `scheduler_consistent`: for **every** sequence of messages — allocations split into their three steps with
    anything in between (other allocations, heartbeats with the same or a fresh nonce, job-state updates with every
    state from every server, failed assignments) — every live job is listed by its registered server, job ids are
    fresh, no server lists more jobs than `cpus + 1 + cpus/8`, the scheduler is not poisoned, and no update panics. -/
theorem scheduler_consistent (msgs : List WAct) :
    let c := (msgs.foldl wstep (({} : Sched), [])).1
    (∀ job ∈ c.jobs, ∃ v, c.findSrv job.server = some v ∧ job.id ∈ v.assigned) ∧
    (∀ job ∈ c.jobs, job.id < c.jobCount) ∧
    (∀ s v, c.findSrv s = some v → v.assigned.length ≤ capOf v.cpus) ∧
    c.poisoned = false ∧
    (∀ j s st, (c.update j s st).2 ≠ .panic) := by
  have h := Sched.scheduler_consistent msgs
  exact ⟨h.1.attributed, h.1.freshJobs, h.1.capacity, h.1.notPoisoned, h.2⟩

/-- `transitions_only`: an accepted job-state update is one of pending→ready, ready→started, started→complete and
    comes from the server the job is attributed to — in every state, reachable or not. -/
theorem transitions_only (c : Sched) (j s : Nat) (st : JState) (h : (c.update j s st).2 = .ok) :
    ∃ job ∈ c.jobs, job.id = j ∧ job.server = s ∧
      ((job.state = .pending ∧ st = .ready) ∨ (job.state = .ready ∧ st = .started) ∨ (job.state = .started ∧ st = .complete)) := by
  unfold update at h
  cases hf : c.jobs.find? (·.id == j) with
  | none => simp [hf] at h
  | some job =>
    have hmem : job ∈ c.jobs := List.mem_of_find?_eq_some hf
    have hid : job.id = j := by simpa using List.find?_some hf
    simp only [hf] at h
    by_cases hs : (job.server != s) = true
    · simp [hs] at h
    · have hs' : job.server = s := by simpa using hs
      refine ⟨job, hmem, hid, hs', ?_⟩
      cases hjs : job.state <;> cases st <;> simp [hjs] at h ⊢

/-- `in_progress_eq`: the status report counts exactly the live jobs -/
theorem in_progress_eq (c : Sched) : c.status.2.2 = c.jobs.length := rfl

/-- non-vacuity: a reachable state with a recorded job on a registered server (the invariant talks about something) -/
example : let c := ([WAct.heartbeat 0 1 2, .choose (some 0), .record 0 0 .ready].foldl wstep (({} : Sched), [])).1
    c.jobs.map (·.id) = [0] ∧ c.servers.map (·.assigned) = [[0]] := by decide

/-- F-C18-a (negative, kernel-checked, **pinned** third step `allocRecord`): a heartbeat with a fresh nonce between
    choice and recording leaves a job attributed to a server that does not list it, and its `Complete` update panics.
    Repaired in /repo by a `fix:` commit; `scheduler_consistent` above is about the repaired step. -/
theorem pinned_panic_witness : witness.2 = .panic ∧ witness.1.poisoned = true := by decide

/-- the capacity bound of the model is the `cores_plus_slack` formula of sccache-dist/main.rs **as it is now** (regenerated) -/
theorem capacity_formula_is_source_formula : (∀ c, capOf c = GenC.capOf c) ∧ GenC.maxPerCoreLoad = 2 :=
  SchedM.Sched.capacity_matches_source

end C18
