import SccacheModel.Proofs.Paths

/-! # C19 — build-server jobs cannot read or create files outside their private root

Model: `PathsM` (`Model/Paths.lean`, toolchain ids in `Model/TcPaths.lean`): Rust `Path::join` (an absolute path replaces),
the trimming `Path::components` performs, `build::join_suffix` (strip the root of the suffix, keep everything else
*textually*), and the OS's lexical resolution of `.` / `..`.  Tie: hook H6 (`SCCACHE_DIST_VERIF=paths:` inside the
`sccache-dist` crate: the real `join_suffix` and `std::path`) + `modeld paths` on adversarial cwd / path pairs; `h_tc ids`
for toolchain ids.
The server's use of these paths: `resolve_inside` (fix 732ef31) — `confined_all`, `every_step_inside`, `refused_only_when_leaving`.
Real build server: `tools/sys_c19.py` (real scheduler + `sccache-dist server` with its OverlayBuilder and a real overlay mount;
only bubblewrap is replaced by a chroot stand-in, so namespace isolation itself stays out of reach — partial). -/

namespace C19
open PathsM

/-- `confined_partial`: for every build root (non-empty, not ending in `/`) and every client-supplied remainder that
    is relative and has **no `..` component**, the joined path resolves inside the build root. That last hypothesis is
    what `join_suffix` alone never established (finding F-C19-a, `escape_witness`); `confined_all` does without it. -/
theorem confined_partial (target rest : Bytes)
    (ht : target ≠ []) (hl : target.getLast? ≠ some slash)
    (hr : hasRoot rest = false) (hdd : ∀ c ∈ splitSlash rest, c ≠ [dot, dot]) :
    confined target (pjoin target rest) = true := PathsM.confined_partial target rest ht hl hr hdd

/-- stripping the root really leaves a relative path: after `trim_left` nothing begins with `/`, so an absolute
    `cwd` or output path can never *replace* the build root in `join_suffix` -/
theorem stripped_suffix_is_relative (fuel : Nat) (s : Bytes) (h : s.length < fuel) : hasRoot (trimLeftFuel fuel s) = false :=
  PathsM.trimLeftFuel_noRoot fuel s h

/-- `confined_all` (the repaired server, fix 732ef31): for **every** client-supplied remainder — `..` components, empty and `.`
    components, any bytes — whatever `resolve_inside` accepts is, by the kernel's lexical resolution, the build root followed
    by the returned names: inside the root. (World without symbolic links; links are resolved by `canonicalize` and checked by
    the same `starts_with(root)` test — trusted base: the kernel.)  The two hypotheses on the build root are not used:
    `PathsM.resolveInside_sound` holds for every root. -/
theorem confined_all (target rest : Bytes) (q : List Bytes)
    (ht : target ≠ []) (hl : target.getLast? ≠ some slash) (hr : hasRoot rest = false)
    (h : resolveInside rest = some q) :
    resolve (pjoin target rest) = resolve target ++ q := PathsM.resolveInside_sound target rest q hr h

/-- … and every **intermediate** directory of the walk is inside the root too: with `create_dirs` nothing is ever created
    outside (`create_dir` is called on the current prefix only) -/
theorem every_step_inside (target rest : Bytes) (q : List Bytes) (h : resolveInside rest = some q)
    (cs₁ cs₂ : List Bytes) (hs : splitSlash rest = cs₁ ++ cs₂) :
    resolve target <+: cs₁.foldl rstep (resolve target) := PathsM.resolveInside_steps_inside target rest q h cs₁ cs₂ hs

/-- a refusal is never gratuitous: some prefix of the path really leaves the root (so ordinary `../sibling/x.o` outputs of a
    deep enough cwd keep working) -/
theorem refused_only_when_leaving (rest : Bytes) (base : List Bytes) (hb : base ≠ []) (h : resolveInside rest = none) :
    ∃ cs₁ cs₂, splitSlash rest = cs₁ ++ cs₂ ∧ ¬ (base <+: cs₁.foldl rstep base) := by
  have := PathsM.foldl_istep_refuses_only_escapes (splitSlash rest) [] base hb h
  rwa [List.append_nil] at this

/-- the request of F-C19-a is refused now, an ordinary `..` that stays inside is resolved -/
theorem fixed_escape_refused :
    resolveInside (suffixRest (pjoin [47, 119] [46, 46, 47, 46, 46, 47, 101, 116, 99, 47, 112, 97, 115, 115, 119, 100])) = none ∧
    resolveInside (suffixRest (pjoin [47, 119, 47, 115] [46, 46, 47, 111, 46, 111])) = some [[119], [111, 46, 111]] := by decide

/-- F-C19-a as it was on the pinned tree (kernel-checked): `..` components survive `join_suffix` alone —
    build root `/srv/b/t`, cwd `/w`, output `../../etc/passwd` resolves to `/srv/b/etc/passwd`, outside the root.
    The repaired server no longer hands this path to the file system (`fixed_escape_refused`). -/
theorem escape_witness :
    confined [47, 115, 114, 118, 47, 98, 47, 116]
      (joinSuffix [47, 115, 114, 118, 47, 98, 47, 116] (pjoin [47, 119] [46, 46, 47, 46, 46, 47, 101, 116, 99, 47, 112, 97, 115, 115, 119, 100])) = false := by
  decide

/-- non-vacuity of `confined_partial`: an ordinary output path -/
example : confined [47, 115, 114, 118] (pjoin [47, 115, 114, 118] [119, 47, 111, 46, 111]) = true := by decide

/-- `toolchain_path_confined` (fix 718dc21): for **every** id the toolchain cache accepts (`valid_archive_id`: at least two bytes, all
    hex digits) the file it uses resolves to exactly `<root>/<id[0]>/<id[1]>/<id>` — below the cache root — and the slicing of
    `make_lru_key_path` cannot fail; every other client-supplied id is refused before a path is built -/
theorem toolchain_path_confined (root id : Bytes) (hv : validId id = true) :
    resolve (keyPath root id) = resolve root ++ [id.take 1, (id.drop 1).take 1, id] := PathsM.keyPath_confined root id hv

/-- the ids of the finding fixed by 718dc21 are refused: empty, one byte, `../../x`, `/abs` -/
theorem bad_ids_refused : validId [] = false ∧ validId [97] = false ∧ validId [46, 46, 47, 46, 46, 47, 120] = false ∧ validId [47, 97, 98] = false := by decide

/-- `overlay_dir_confined` (fix aa1c43e): for **every** client-supplied toolchain id, a directory the overlay builder creates for
    it is exactly `<builder>/toolchains/<id>`; ids the toolchain cache refuses get none -/
theorem overlay_dir_confined (builder id : Bytes) (c : Bool) (p : Bytes) (h : overlayDir builder id c = some p) :
    resolve p = resolve builder ++ [tcDirName, id] := PathsM.overlayDir_confined builder id c p h

theorem overlay_dir_bad_ids_refused (builder : Bytes) (c : Bool) :
    overlayDir builder [46, 46, 47, 46, 46, 47, 120] c = none ∧ overlayDir builder [47, 116, 109, 112, 47, 120] c = none ∧
    overlayDir builder [] c = none := PathsM.overlayDir_refuses_bad_ids builder c

/-- F-C19-c fixed witness: what the unrepaired code did with `../../x` and `/tmp/x` -/
theorem overlay_dir_escape_witness_before :
    confined [47, 98, 47, 100] (overlayDirBefore [47, 98, 47, 100] [46, 46, 47, 46, 46, 47, 120]) = false ∧
    confined [47, 98, 47, 100] (overlayDirBefore [47, 98, 47, 100] [47, 116, 109, 112, 47, 120]) = false := PathsM.overlayDirBefore_escape_witness

/-- non-vacuity: a digest-like id in the cache gets its directory -/
example : overlayDir [47, 98, 47, 100] [48, 97, 102, 57] true = some ([47, 98, 47, 100] ++ [47] ++ tcDirName ++ [47] ++ [48, 97, 102, 57]) := rfl

/-- non-vacuity: a digest-like id is accepted -/
example : validId [48, 97, 102, 57] = true := by decide

end C19
