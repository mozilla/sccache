import SccacheModel.Proofs.Client
import SccacheModel.Proofs.FrameCodec
import SccacheModel.Proofs.Frame

/-! # C11 — losing the server mid-request degrades to a correct local compile

Model: `ClientM.clientDecide` (`Model/Client.lean`) = `commands.rs::handle_compile_response` as a total function of
(first response ∈ {CompileStarted, UnhandledCompile, UnsupportedCompiler, other, io-error}, second read ∈
{CompileFinished(retcode, signal), other response, EOF in header or body, other error}, SCCACHE_IGNORE_SERVER_IO_ERROR)
→ {deliver the server's result, compile locally, sccache error}.  Every way a server can be lost reduces to one symbol.
Tie: `tools/sys_c11.py` — the **real client binary** against a scripted fake server over the whole alphabet + `modeld
client`; the real server SIGKILLed during detection / preprocessing / compilation; garbage and oversized frames on one
connection while another compiles. -/

namespace C11
open ClientM

/-- `exit0_only_if_true_result`: over the whole alphabet, the client delivers exit status 0 *from the server* only
    when a live server sent `CompileFinished` with retcode 0; every other path is a local compile (whose status is the
    compiler's own) or an sccache error -/
theorem exit0_only_if_true_result (ig : Bool) (f : First) (s : Second) :
    clientDecide ig f s = .deliver 0 → f = .compileStarted ∧ ∃ sg, s = .finished (some 0) sg :=
  ClientM.exit0_only_if_true_result ig f s

/-- `ack_then_eof_local`: after the acknowledgement, a connection that ends (server exited or was killed) always
    degrades to running the original command locally -/
theorem ack_then_eof_local (ig : Bool) : clientDecide ig .compileStarted .eof = .localCompile := rfl

/-- `lost_before_ack`: a server lost before the acknowledgement is an sccache error, never a silent success -/
theorem lost_before_ack (ig : Bool) (s : Second) : clientDecide ig .ioError s = .sccacheError := rfl

/-- totality of the three outcomes: whatever is read, the client delivers a server result, compiles locally, or
    reports an sccache error — and it never *delivers* anything unless a `CompileFinished` frame was read -/
theorem deliver_only_after_finished (ig : Bool) (f : First) (s : Second) (e : Int) (h : clientDecide ig f s = .deliver e) :
    f = .compileStarted ∧ ∃ rc sg, s = .finished rc sg := by
  fun_cases clientDecide ig f s <;> simp_all [clientDecide]

/-- with SCCACHE_IGNORE_SERVER_IO_ERROR=1 every lost connection after the acknowledgement is a local compile -/
theorem ignore_io_error_always_local (s : Second) (h : s = .eof ∨ s = .otherError) :
    clientDecide true .compileStarted s = .localCompile := by
  rcases h with rfl | rfl <;> rfl


/-! ## the server's side of the wire (`Model/Frame.lean`): frames, `Request` decoding, one connection -/

section Wire
open FrameM

/-- `request_round_trip`: whatever request the client encodes (every length below 2^64), the server decodes exactly that
    request from the frame body, whatever bytes follow it -/
theorem request_round_trip (r : Req) (h : WfReq r) (tail : Bytes) : decReq (encReq r ++ tail) = some r :=
  FrameM.decReq_encReq r h tail

/-- `reads_do_not_matter`: two ways of cutting the same byte stream into reads give the same requests handed to the
    service, the same end of the connection and the same leftover bytes — for every byte stream, valid or not -/
theorem reads_do_not_matter (c : Conn) (x y : Bytes) (xs ys : List Bytes) (h : (x :: xs).flatten = (y :: ys).flatten) :
    feedAll c (x :: xs) = feedAll c (y :: ys) := FrameM.split_invariant c x y xs ys h

/-- `malformed_ends_only_its_connection`: a server is a family of connections; feeding any bytes to one of them leaves the
    state of every other connection as it was (the model has no shared decoder state — the tie `h_frames` checks the real
    server against it with a witness connection) -/
theorem malformed_ends_only_its_connection (conns : Nat → Conn) (i j : Nat) (chunk : Bytes) (h : i ≠ j) :
    (fun k => if k = i then (feed (conns i) chunk).1 else conns k) j = conns j := by
  simp [Ne.symm h]

/-- an announced length above the limit ends the connection at once; nothing sent afterwards on it is looked at -/
theorem oversized_frame_ends_connection (mf n : Nat) (head rest later : Bytes) (hh : head.length = 4) (hn : beVal head = n) (hbig : mf < n) :
    (feed (Conn.init mf) (head ++ rest)).2 = [.closed] ∧
    feed (feed (Conn.init mf) (head ++ rest)).1 later = ((feed (Conn.init mf) (head ++ rest)).1, []) := by
  have h := FrameM.oversized_frame_closes mf head rest hh (hn ▸ hbig)
  exact ⟨h.1, FrameM.dead_ignores _ h.2 later⟩

/-- non-vacuity: `GetStats` then `ZeroStats` in two frames, delivered one byte at a time or at once; a frame whose body is not a
    request ends the connection after the requests before it -/
example : (feedAll (Conn.init 100) [[0, 0, 0, 4, 1, 0], [0, 0], [0, 0, 0, 4, 0, 0, 0, 0]]).2 = [.request .getStats, .request .zeroStats] := by decide
example : (feed (Conn.init 100) [0, 0, 0, 4, 1, 0, 0, 0, 0, 0, 0, 2, 9, 9, 0, 0, 0, 4, 0, 0, 0, 0]).2 = [.request .getStats, .closed] := by decide

end Wire

end C11
