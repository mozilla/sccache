import SccacheModel.Proofs.ServerL1
import SccacheModel.Proofs.Spec

/-! # C09 — a broken, corrupt or read-only cache never breaks or falsifies a build

L1 (`Model/ServerL1.lean`): `decide1` = `CompilerHasher::get_cached_or_compile` + the result mapping of
`start_compile_task` as a total function of (hash outcome, cache control, lookup outcome, extraction outcome, compile
outcome, cacheable, pack, store outcome); `ppSectionFixed` = the preprocessor-cache section of `generate_hash_key` after
the `fix:` commit for F-C09-a.  Tie: `h_l1` — exhaustive enumeration of that alphabet on the real
`get_cached_or_compile` (fault-injecting `Storage` around the real `DiskCache`, real gcc) and on-disk faults of the
preprocessor-cache entry file.  L0 (`Model/Spec.lean`): the abstract cache over all histories. -/

namespace C09
open L1 L0

/-- `storage_fault_total`: whatever the cache does on lookup and on store — miss, error, time-out, undecodable
    entry, failing or refused store — a request whose hash and compile steps work is answered with the compiler's
    own result, and the compiler ran. Over the whole input alphabet. -/
theorem storage_fault_total (i : In) (hh : i.hash = .ok) (hc : i.compile ≠ .spawnErr) (hp : i.pack = true)
    (hl : i.lookup ≠ .hit ∨ i.extract = .decompressionFailure) :
    ∃ ok, (decide1 i).reply = .compilerResult ok ∧ (decide1 i).ranCompiler = true :=
  L1.storage_fault_total i hh hc hp hl

/-- `failed_not_stored`: the result of a failed compilation is never stored -/
theorem failed_not_stored (i : In) (h : (decide1 i).reply = .compilerResult false) : (decide1 i).storeIssued = false :=
  L1.failed_not_stored i h

/-- the outcome of the store never influences the reply (read-only, full or broken caches only move counters) -/
theorem store_outcome_irrelevant (i : In) (b : Bool) : decide1 { i with storeOk := b } = decide1 i :=
  L1.store_outcome_irrelevant i b

/-- after the fix of F-C09-a **no** state of the preprocessor-cache entry (absent, empty, valid, undecodable,
    unreadable), with any option, can make a request fatal -/
theorem ppsection_total (usePP controlDefault : Bool) (e : PEntry) (updatePutOk : Bool) :
    ppSectionFixed usePP controlDefault e updatePutOk ≠ .propagateError :=
  ppsection_fixed_total usePP controlDefault e updatePutOk

/-- F-C09-a (negative, kernel-checked, **pinned** code): an undecodable entry propagated out of `generate_hash_key`.
    Repaired in /repo by a `fix:` commit. -/
theorem ppsection_pinned_witness : ppSectionPinned true true .undecodable true = .propagateError := rfl

/-- L0, all histories: after any history of requests with lookup/store faults, evictions, corruptions of entries
    and restarts, the reply to a request — with or without a lookup fault, with or without a store fault — is the
    direct compiler's result for that request. -/
theorem transparent_under_faults (cc : CC) (hist : List Ev) (fp : Nat) (lf sf : Bool) (o : Obs)
    (h : (estep cc (erun cc (fun _ => none) hist) (.request fp lf sf)).2 = some o) : o.reply = cc fp :=
  L0.transparent cc hist fp lf sf o h

/-- L0: results of failed compilations are never in the cache, after any history -/
theorem failed_never_cached (cc : CC) (hist : List Ev) (k : Nat) (r : Result)
    (h : erun cc (fun _ => none) hist k = some r) : r.ok = true := L0.failed_never_cached cc hist k r h

/-- L0 `repopulates`: once the fault is gone, a normal miss stores the entry again -/
theorem repopulates (cc : CC) (hist : List Ev) (fp : Nat) (hok : (cc fp).ok = true) :
    (estep cc (erun cc (fun _ => none) (hist ++ [.corrupt fp])) (.request fp false false)).1 fp = some (cc fp) :=
  request_stores cc _ (sound_hist cc _) fp hok

/-- the L1 decision function refines the L0 step: on a well-behaved request (hash ok, compiler spawns, outputs pack)
    the compiler runs exactly when L0 says so and the reply class is L0's -/
theorem decide1_refines_estep (cc : CC) (c : Cache) (fp : Nat) (lf sf : Bool) :
    let i : In := { hash := .ok, control := .default, lookup := if lf then .err else (if (c fp).isSome then .hit else .miss),
                    extract := .ok, compile := if (cc fp).ok then .success else .failure, cacheable := true, pack := true, storeOk := !sf }
    ∀ o, (estep cc c (.request fp lf sf)).2 = some o →
      (decide1 i).ranCompiler = o.ranCompiler ∧
      ((decide1 i).reply = .cachedResult ↔ o.ranCompiler = false) ∧
      ((decide1 i).storeIssued = true → o.reply.ok = true) := by
  intro i o ho
  simp only [estep] at ho
  split at ho <;> cases ho
  next r hr =>
    -- L0 found an entry, so there was no fault and L1 sees a hit
    have : lf = false ∧ c fp = some r := by cases lf <;> simp_all
    simp [decide1, i, this]
  next hr =>
    -- fault or no entry: L1 sees `err` or `miss`, compiles, and stores iff the compile succeeds
    have : i.lookup ≠ .hit := by cases lf <;> simp_all [i]
    cases hk : (cc fp).ok <;> simp_all [decide1, i]

end C09
