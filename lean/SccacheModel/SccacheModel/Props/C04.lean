import SccacheModel.Proofs.TimeMacro
import SccacheModel.Proofs.Manifest
import SccacheModel.Proofs.Recorder
import SccacheModel.Gen.KeyConsts

/-! # C04 — preprocessor-cache (direct) mode never returns a result for changed inputs

Three cores carry the logic:
* `TM.Finder` (`Model/TimeMacro.lean`) — literal transcription of `util::TimeMacroFinder` (26-byte overlap buffer,
  small-read accumulator, full-chunk counter). Tie: `h_c04 finder` (real finder and real chunked digest on generated
  texts × generated read splits) + `modeld finder`.
* `ManifestM.resultMatches` (`Model/Manifest.lean`) — `PreprocessorCacheEntry::result_matches` with `add_result`'s
  recording rule. Tie: `h_c04 manifest` (real entry on real files whose contents, sizes and mtimes are edited) +
  `modeld manifest`.
* `RecM.processPreprocessedFile` (`Model/Recorder.lean`) — `process_preprocessed_file`, `process_preprocessor_line`,
  `remember_include_file`, `normalize_path` (the include recorder that decides *which* files enter the manifest and
  whether direct mode stays on). Tie: `h_recorder` (the real recorder through hook H2 on generated line-marker
  texts over a real directory tree) + `modeld recorder`. -/

namespace C04
open TM ManifestM

/-- `finder_sound`: for **every** way of splitting the bytes of a file into non-empty successive reads, each of
    `__TIMESTAMP__`, `__TIME__`, `__DATE__` that occurs in the file is reported — no chunk boundary hides a macro. -/
theorem finder_sound (chunks : List Bytes) (hne : ∀ c ∈ chunks, c ≠ []) :
    (patTimestamp <:+: chunks.flatten → (Finder.run chunks).foundTimestamp = true) ∧
    (patTime <:+: chunks.flatten → (Finder.run chunks).foundTime = true) ∧
    (patDate <:+: chunks.flatten → (Finder.run chunks).foundDate = true) :=
  ⟨finder_found chunks hne 0, finder_found chunks hne 1, finder_found chunks hne 2⟩

/-- non-vacuity: `__TIME__` split 3|2|3 across three short reads after a full chunk is found -/
example : (Finder.run [List.replicate 20 120, [95, 95, 84], [73, 77], [69, 95, 95]]).foundTime = true := by decide

/-- `manifest_hit_sound`: for every option combination (stat matching, ctime use, ignoring time macros),
    every recorded include list (recorded at compile start `t0` from file system `fs0`) and every later file system
    in which each changed file carries a ctime ≥ `t0` (any history of writes, touches, deletions, re-creations under
    a monotone clock), a manifest hit implies that **every** recorded header still has its recorded contents —
    at full strength since the fix of F-C04-b (headers holding time-macro text are content-compared too). -/
theorem manifest_hit_sound (cfg : Cfg) (t0 : Nat) (fs0 fs1 : FS)
    (hev : EvolvedSince t0 fs0 fs1)
    (incs : List Inc) (hrec : ∀ inc ∈ incs, ∃ f0, fs0 inc.path = some f0 ∧ inc = record t0 inc.path f0)
    (hm : resultMatches cfg fs1 incs = true) :
    ∀ inc ∈ incs, ∃ f1, fs1 inc.path = some f1 ∧ f1.content = inc.digest :=
  ManifestM.manifest_hit_sound cfg t0 fs0 fs1 hev incs hrec hm

/-- the expansions of the time macros: under the default handling a header that mentions `__TIME__` or `__DATE__` never hits, and one that
    mentions `__TIMESTAMP__` hits only with the modification time it was recorded with (no stat hit involved) -/
theorem time_macro_header_hit (cfg : Cfg) (fs : FS) (inc : Inc) (rest : List Inc) (f : FileSt)
    (hf : fs inc.path = some f) (hcfg : cfg.ignoreTimeMacros = false) (hst : statHit cfg f inc = false)
    (hm : resultMatches cfg fs (inc :: rest) = true) :
    f.hasTime = false ∧ f.hasDate = false ∧ (f.hasTimestamp = true → inc.mtime = some f.mtime) :=
  ManifestM.time_macro_header_hit cfg fs inc rest f hf hcfg hst hm

/-- a deleted header never yields a hit -/
theorem deleted_header_misses (cfg : Cfg) (fs : FS) (inc : Inc) (rest : List Inc) (h : fs inc.path = none) :
    resultMatches cfg fs (inc :: rest) = false := by simp [resultMatches, h]

/-- a size-changing edit of any recorded header never yields a hit, whatever the options -/
theorem size_change_misses (cfg : Cfg) (fs : FS) (pre : List Inc) (inc : Inc) (post : List Inc) (f : FileSt)
    (hf : fs inc.path = some f) (hs : f.size ≠ inc.size) : resultMatches cfg fs (pre ++ inc :: post) = false := by
  refine Bool.eq_false_iff.mpr fun hm => ?_
  obtain ⟨f', hf', hsz, -⟩ := (resultMatches_iff cfg fs _).mp hm inc (by simp)
  cases hf.symm.trans hf'
  exact hs hsz

/-- F-C04-a, now repaired in /repo (`fix:` commit): with `ignore_time_macros` an edit of the *second* header is detected -/
theorem ignore_time_macros_second_header_detected :
    let cfg : Cfg := ⟨false, true, true⟩
    let fs1 : FS := fun p => if p = 0 then some ⟨10, 5, 1, 1, false, false, false⟩ else if p = 1 then some ⟨99, 5, 9, 9, false, false, false⟩ else none
    resultMatches cfg fs1 [⟨0, 10, 5, none, none⟩, ⟨1, 20, 5, none, none⟩] = false :=
  ManifestM.ignore_time_macros_second_header_detected

/-- F-C04-b (fixed; kernel-checked): before the fix a header containing `__DATE__` was never content-compared — a same-size edit still
    hit — and a touched `__TIMESTAMP__` header kept hitting with its old expansion; both states miss now -/
theorem date_header_witness :
    let cfg : Cfg := ⟨false, true, false⟩
    let fs1 : FS := fun p => if p = 0 then some ⟨77, 5, 1, 1, true, false, false⟩ else none
    resultMatchesBefore cfg fs1 [⟨0, 10, 5, none, none⟩] = true ∧ resultMatches cfg fs1 [⟨0, 10, 5, none, none⟩] = false :=
  ManifestM.date_header_witness

theorem timestamp_header_witness :
    let cfg : Cfg := ⟨false, true, false⟩
    let fs1 : FS := fun p => if p = 0 then some ⟨10, 5, 9, 9, false, false, true⟩ else none
    resultMatchesBefore cfg fs1 [⟨0, 10, 5, some 1, some 1⟩] = true ∧ resultMatches cfg fs1 [⟨0, 10, 5, some 1, some 1⟩] = false :=
  ManifestM.timestamp_header_witness


end C04

namespace C04
open RecM

/-- `recorder_sound`: for **every** well-formed preprocessor output (any number of lines; line markers `hd "path" flags`
    mixed with arbitrary other lines), every option combination and every file system: if the recorder leaves direct
    mode enabled, the file named by each line marker is among the recorded include files (under the key
    `cwd.join(normalised path)`), or is excluded for one of the four documented reasons — a `<pseudo>` name, a system
    header while `skip_system_headers` is set, the input file itself, a directory. -/
theorem recorder_sound (cfg : RecM.Cfg) (fs : Bytes → FileKind) (cwd input : Bytes) (ls : List Line) (hwf : WF [] ls) (rec : List Bytes)
    (h : processPreprocessedFile cfg fs cwd input (textOf ls) = .ok true rec) :
    ∀ hd path flags, Line.marker hd path flags ∈ ls → path ≠ [] → Covered cfg fs cwd input rec path flags :=
  RecM.recorder_sound cfg fs cwd input ls hwf rec h

/-- non-vacuity of `recorder_sound`: a well-formed three-line text on which direct mode stays on and both headers —
    one of them reached through `../` — are recorded -/
theorem recorder_sound_nonvacuous : WF [] exLines ∧
    processPreprocessedFile ⟨true, false⟩ (fsOf exWorld) (sb [47, 112, 47, 115]) (sb [47, 112, 47, 115, 47, 109, 46, 99]) (textOf exLines)
      = .ok true [sb [47, 112, 47, 115, 47, 97, 46, 104], sb [47, 112, 47, 115, 47, 46, 46, 47, 105, 47, 98, 46, 104]] :=
  ⟨exLines_wf, exLines_result⟩

/-- what the recorder does on one well-formed marker line: the bytes between the first two quotes, normalised, go to
    `remember_include_file`, with `system` = "a `3` occurs after the closing quote" — never anything read from the path itself -/
theorem marker_line_handling (cfg : RecM.Cfg) (fs : Bytes → FileKind) (cwd input : Bytes) (pre hd path flags post : Bytes) (known : List Bytes) (hs : Nat)
    (hhd : ∀ b ∈ hd, b ≠ bQuote ∧ b ≠ bNl) (hpath : ∀ b ∈ path, b ≠ bQuote) (hpne : path ≠ []) (hflags : ∀ b ∈ flags, b ≠ bNl)
    (h31 : startsAt (pre ++ markerLine hd path flags ++ post) pre.length hash31 = false)
    (h32 : startsAt (pre ++ markerLine hd path flags ++ post) pre.length hash32 = false) :
    processLine cfg fs cwd input (pre ++ markerLine hd path flags ++ post) known pre.length hs =
      (let q := pre.length + hd.length + 1 + path.length
       match remember cfg fs cwd input known (normalizedText path) (flags.contains b3) with
       | .disable => .brk q (pre.length + hd.length + 1) false (pre ++ markerLine hd path flags ++ post) known
       | .ok none => .cont q q (pre ++ markerLine hd path flags ++ post) known
       | .ok (some p) => .cont q q (pre ++ markerLine hd path flags ++ post) (known ++ [p])) :=
  RecM.processLine_marker cfg fs cwd input pre hd path flags post known hs hhd hpath hpne hflags h31 h32

/-- a regular, old-enough, readable, not yet known user header is recorded -/
theorem remember_records (cfg : RecM.Cfg) (fs : Bytes → FileKind) (cwd input : Bytes) (known : List Bytes) (path : Bytes) (system : Bool)
    (hpseudo : ¬ (path.length ≥ 2 ∧ path.head? = some 60 ∧ path.getLast? = some 62))
    (hsys : ¬ (system = true ∧ cfg.skipSystemHeaders = true))
    (hknown : known.contains (fullPath cwd (stripDot path)) = false)
    (hinput : fullPath cwd (stripDot path) ≠ fullPath cwd input)
    (hslash : (stripDot path).getLast? ≠ some bSlash)
    (ht : Bool) (hfs : fs (fullPath cwd (stripDot path)) = .file false false ht)
    (htime : ht = false ∨ cfg.ignoreTimeMacros = true) :
    remember cfg fs cwd input known path system = .ok (some (fullPath cwd (stripDot path))) :=
  RecM.remember_records cfg fs cwd input known path system hpseudo hsys hknown hinput hslash ht hfs htime

/-- a path without `..` (and without a leading `.`) is recorded under exactly the spelling the preprocessor used -/
theorem normalizedText_plain (raw : Bytes) (h : ∀ c ∈ rustComps raw, c ≠ dotdot ∧ c ≠ [bDot]) : normalizedText raw = raw :=
  RecM.normalizedText_plain raw h

/-- F-C04-c (pinned code, kernel-checked witness): `../inc/a.h` lost its leading `..` and was recorded as `<cwd>/inc/a.h` … -/
theorem pinned_drops_leading_dotdot :
    normalizedTextWith normStepPinned (sb [46, 46, 47, 105, 110, 99, 47, 97, 46, 104]) = sb [105, 110, 99, 47, 97, 46, 104] := by decide
/-- … repaired in /repo (`fix:` commit ce87ea6): the spelling is kept -/
theorem fixed_keeps_leading_dotdot :
    normalizedText (sb [46, 46, 47, 105, 110, 99, 47, 97, 46, 104]) = sb [46, 46, 47, 105, 110, 99, 47, 97, 46, 104] := by decide

/-- the three patterns and the overlap length of the finder model are the ones of util.rs **as it is now** (regenerated) -/
theorem finder_patterns_are_source_patterns :
    TM.patTimestamp = GenC.patTimestamp ∧ TM.patTime = GenC.patTime ∧ TM.patDate = GenC.patDate ∧ TM.maxHay = GenC.maxHaystackLen :=
  TM.patterns_match_source

/-- `entry_key_covers_result_key_env` (fix F-C04-e, over the **regenerated** lists): every environment variable that is part of the
    result key (`CACHED_ENV_VARS` of `c.rs`) is part of the preprocessor-cache entry key as well.  A hit in preprocessor-cache mode
    returns a result key that was computed for an earlier request; it is only sound if nothing that enters that key can differ.
    On the pinned tree `CCC_OVERRIDE_OPTIONS`, `SDKROOT` and the deployment targets were missing from the entry key: with direct mode on,
    a change of one of them was answered with the object of the old value.  (The include-path variables are in the entry key only —
    they act through the preprocessed text in the result key.) -/
theorem entry_key_covers_result_key_env : CK.cCachedEnv.all (fun v => CK.ppCachedEnv.contains v) = true := by decide +kernel

/-- the locale variables are in both lists (fix F-C01-n: diagnostics stored with a result depend on them) -/
theorem locale_variables_hashed :
    [[76, 65, 78, 71], [76, 67, 95, 65, 76, 76], [76, 67, 95, 67, 84, 89, 80, 69], [76, 67, 95, 77, 69, 83, 83, 65, 71, 69, 83]].all
      (fun v => CK.cCachedEnv.contains v && CK.ppCachedEnv.contains v) = true := by decide +kernel

end C04
