import SccacheModel.Proofs.Tokens

/-! # C16 — compiler processes are bounded by the job-token pool and tokens never leak

Model: `TokensM` (`Model/Tokens.lean`): `avail` tokens in the pipe, a FIFO queue of waiting oneshot senders (some
cancelled because their client went away), the requests that own an `Acquired`, and the live children; steps
`request`, `cancel`, `grant` (helper thread hands a token to the queue head; a cancelled head gives it straight back),
`spawnOk` / `spawnErr`, `exit`.  Any number of requests, any interleaving of the steps.
Tie: `h_tokens` (the real `jobserver::Client` with its helper thread, observed at quiescent points, cancellation by
dropping the pending future) + `modeld tokens`; system monitor `tools/sys_c16.py` (real server restricted to K CPUs,
enter/leave ledger of real compiler processes, failing compiles and killed clients, then a saturating burst). -/

namespace C16
open TokensM

/-- `token_bound`: in **every** reachable state the number of live compiler/preprocessor processes is at most the
    number of tokens created at start-up -/
theorem token_bound (n : Nat) (as : List TAct) : (trun (Pool.init n) as).running.length ≤ n := TokensM.token_bound n as

/-- tokens are conserved in every reachable state: in the pipe + owned by requests = N -/
theorem token_conservation (n : Nat) (as : List TAct) :
    (trun (Pool.init n) as).avail + (trun (Pool.init n) as).holding.length = (trun (Pool.init n) as).n :=
  (tinv_run as _ (tinv_init n)).cons

/-- `token_no_leak`: on every path — success, compiler failure, spawn failure, cancelled waiter — once nothing owns
    a token the pool is full again, so full parallelism can be reached again after any history -/
theorem token_no_leak (n : Nat) (as : List TAct) (hq : (trun (Pool.init n) as).holding = []) :
    (trun (Pool.init n) as).avail = (trun (Pool.init n) as).n := TokensM.token_no_leak n as hq

/-- `token_progress`: a token in the pipe and a live waiter at the head of the queue means the grant hands it to
    exactly that waiter (FIFO); a cancelled head never absorbs a token -/
theorem token_progress (p : Pool) (w : Waiter) (rest : List Waiter) (hq : p.queue = w :: rest)
    (ha : 0 < p.avail) (hc : w.cancelled = false) :
    (tstep p .grant).holding = w.id :: p.holding ∧ (tstep p .grant).queue = rest :=
  TokensM.token_progress p w rest hq ha hc

theorem cancelled_head_returns_token (p : Pool) (w : Waiter) (rest : List Waiter) (hq : p.queue = w :: rest)
    (ha : 0 < p.avail) (hc : w.cancelled = true) :
    (tstep p .grant).avail = p.avail ∧ (tstep p .grant).queue = rest ∧ (tstep p .grant).holding = p.holding := by
  simp [grant_cons hq ha, hc]

/-- non-vacuity: three requests on two tokens, one cancelled while queued, a spawn failure and an exit -/
example : let p := trun (Pool.init 2) [.request, .request, .request, .grant, .grant, .cancel 2, .spawnOk 0, .spawnErr 1, .grant, .exit 0]
    p.avail = 2 ∧ p.holding = [] ∧ p.running = [] := by decide

end C16
