import SccacheModel.Proofs.Args
import SccacheModel.Proofs.ArgsPolicy
import SccacheModel.Props.C02
import SccacheModel.Proofs.ServerL1
import SccacheModel.Proofs.Spec
import SccacheModel.Proofs.AtFile
import SccacheModel.Proofs.MakeQuote

/-! # C01 — wrapped C/C++ compiles are observably identical to direct compiles

Three layers carry the property:
* L2 `ArgsM` (`Model/Args.lean` over the **generated** tables `Gen/Args.lean`): `ArgsIter`, the classification loop
  of `gcc::parse_arguments` for gcc and clang, and `regen` = the argument vector of `generate_compile_commands`.
  Tie: translator (tables) + `h_args` (real parser and re-synthesis, field by field) + `modeld args`.
* L1 `L1.decide1`: what is returned to the client for every combination of lookup / compile outcomes (`h_l1`).
* L0 `L0`: all histories, with A1 (the compiler's result is a function of the hashed components) as the named hypothesis
  packaged in `CC := fingerprint → Result`; the fingerprint is what C02 shows the key to determine. -/

namespace C01
open ArgsM

/-- `regen_partition`: for **every** argument list that the first loop of `parse_arguments` classifies and the final checks
    accept, the five argument lists of the result are the order-preserving sub-lists of the normalised arguments by class
    (plus the documented synthesised items), so the regenerated command loses, duplicates and reorders nothing within a
    class. The loop over the values of `-Xclang`, which adds `-Xclang …` strings of its own, is not part of the statement. -/
theorem regen_partition (plusplus m : Bool) (args : List Argument) (p : Parsed) (st : St)
    (hc : classifyAll m {} (args.map .ok) = .ok st) (hf : finish plusplus st = .ok p) :
    p.pre = args.flatMap (pick .pre) ∧ p.arch = args.flatMap (pick .arch) ∧ p.unhashed = args.flatMap (pick .unhashed) ∧
    (∃ extra, p.common = args.flatMap (pick .common) ++ extra) ∧ (∃ extra, p.dep = args.flatMap (pick .dep) ++ extra) :=
  ArgsM.regen_partition plusplus m args p st hc hf

/-- `hashed_covers`: every argument classified common or arch is part of what `hash_key` is given -/
theorem hashed_covers (plusplus m : Bool) (args : List Argument) (p : Parsed) (st : St)
    (hc : classifyAll m {} (args.map .ok) = .ok st) (hf : finish plusplus st = .ok p)
    (a : Argument) (ha : a ∈ args) (hcls : clsOf a = .common ∨ clsOf a = .arch) :
    ∀ x ∈ a.strings, x ∈ p.common ++ p.arch := ArgsM.hashed_covers plusplus m args p st hc hf a ha hcls

/-- `regen_complete`: the regenerated command line is exactly language, compilation flag, `-o` object, then the
    five classified lists, `--` when needed, and the input — nothing else. -/
theorem regen_complete (p : Parsed) :
    regen p = (match langGccArg p.lang with | some l => [sb "-x", l] | none => [])
      ++ [p.cflag, sb "-o", ((p.outputs.find? (·.1 == sb "obj")).map (·.2.1)).getD []]
      ++ p.pre ++ p.dep ++ p.unhashed ++ p.common ++ p.arch
      ++ (if p.doubleDash then [sb "--"] else []) ++ [p.input] := rfl

/-- `unhashed_policy` (over the **whole generated** gcc and clang tables): no flag is classified `Unhashed` today, so
    no argument reaches the compiler without reaching the key or the preprocessed text. A source change that moves a
    flag into that class breaks this theorem. -/
theorem unhashed_policy :
    List.all (gccArgs ++ clangArgs) (fun (i : ArgInfo) => !(i.variant == Variant.unhashed || i.variant == Variant.unhashedFlag)) = true :=
  ArgsM.unhashed_policy

/-- no two entries of a generated table share a name (the lookup would otherwise depend on table order) -/
theorem tables_names_distinct :
    List.Pairwise (fun (a b : ArgInfo) => a.name ≠ b.name) gccArgs ∧ List.Pairwise (fun (a b : ArgInfo) => a.name ≠ b.name) clangArgs :=
  ArgsM.tables_names_distinct

/-- L1 `hit_runs_nothing`: a reply from the cache never runs the compiler and never stores; it arises only from a
    successful lookup under default cache control -/
theorem hit_runs_nothing (i : L1.In) (h : (L1.decide1 i).reply = .cachedResult) :
    (L1.decide1 i).ranCompiler = false ∧ (L1.decide1 i).storeIssued = false ∧ i.control = .default ∧ i.lookup = .hit :=
  L1.hit_runs_nothing i h

/-- L0 `transparent`: for **every** history of requests (any fingerprints, with or without storage faults),
    evictions, corruptions and server restarts, the reply to a request equals the direct compiler's result for that
    request at that moment — under A1 (`cc` is a function of the fingerprint) and, through C02, no hash collision. -/
theorem transparent (cc : L0.CC) (hist : List L0.Ev) (fp : Nat) (lf sf : Bool) (o : L0.Obs)
    (h : (L0.estep cc (L0.erun cc (fun _ => none) hist) (.request fp lf sf)).2 = some o) : o.reply = cc fp :=
  L0.transparent cc hist fp lf sf o h

/-- the fingerprint of L0 is sound: requests with different hashed components get different keys (C02), so a result
    recorded for one request is never replayed for a request that differs in digest, driver mode, argument list,
    extra-file digests, allow-listed environment or preprocessed text (modulo an explicit hash collision) -/
theorem never_replayed_for_different_request (H : CK.Bytes → CK.Bytes) (r₁ r₂ : CK.CReq) (w₁ : CK.WF r₁) (w₂ : CK.WF r₂)
    (e₁ : C02.NoTagExtension r₁) (e₂ : C02.NoTagExtension r₂) (hd : ¬ C02.SameComponents r₁ r₂) :
    C02.key H r₁ ≠ C02.key H r₂ ∨ C02.Collision H (CK.encHash r₁) (CK.encHash r₂) :=
  C02.key_separates H r₁ r₂ w₁ w₂ e₁ e₂ hd

/-- F-C01-b (negative, kernel-checked, open), part of the model: `ArgsIter` cuts a concatenated value out of
    `arg.to_string_lossy()`, so in `gcc -c a.c -DA<0xff>B` the argument that is hashed and handed to the compiler is
    `-DA<U+FFFD>B` (three bytes `ef bf bd` instead of `ff`), while the separated spelling `-D A<0xff>B` keeps the byte. -/
theorem lossy_concatenated_value_witness :
    (match tokenize (search1 gccArgs) false 3 false [[45, 68, 65, 255, 66]] with
     | [.ok (.withValue n _ val _)] => n == [45, 68] && val == [65, 239, 191, 189, 66]
     | _ => false) = true ∧
    (match tokenize (search1 gccArgs) false 3 false [[45, 68], [65, 255, 66]] with
     | [.ok (.withValue n _ val _)] => n == [45, 68] && val == [65, 255, 66]
     | _ => false) = true := by decide +kernel

/-- `response_files_agree`: every gcc / clang command line goes through `ExpandIncludeFile` before it is parsed, hashed
    and re-synthesised.  For **every** file system (missing files, directories, files that include themselves or each
    other, any bytes) and every command line: if the expansion leaves no `@` argument behind — the only case in which the
    request can be cached and the compiler is re-run with sccache's argument list — then libiberty's `expandargv`, i.e. the
    compiler started directly on the original command line, arrives at exactly the same list.  (A command line that keeps
    an `@` argument is `cannot_cache!("@")`: the compiler gets the original command line.)
    Findings F-C01-f, F-C01-g, F-C01-h (all fixed) were three ways in which this failed on the pinned tree. -/
theorem response_files_agree (fs : AtFileM.Fs) (args : List AtFileM.Bytes)
    (h : ∀ x ∈ AtFileM.sccExpand fs AtFileM.maxAtFiles args, AtFileM.stripAt x = none) :
    AtFileM.gccExpand fs AtFileM.maxAtFiles args = some (AtFileM.sccExpand fs AtFileM.maxAtFiles args) :=
  AtFileM.expand_agrees fs _ args h

/-- a command line without `@` arguments is not touched -/
theorem no_response_file_no_change (fs : AtFileM.Fs) (args : List AtFileM.Bytes) (h : ∀ x ∈ args, AtFileM.stripAt x = none) :
    AtFileM.sccExpand fs AtFileM.maxAtFiles args = args := AtFileM.sccExpand_no_at fs _ args h

/-- the expansion is a total function: `sccExpand` is accepted by Lean with the measure (budget, arguments left) —
    on the pinned tree a response file naming itself made the real iterator produce arguments for ever (F-C01-h).
    Witness on the fixed semantics: with a budget of 3 the self-including file `l` = "-DL @l" is opened twice, then left alone. -/
theorem self_including_file_is_left_alone :
    AtFileM.sccExpand AtFileM.fsEx 3 [[64, 108]] = [[45, 68, 76], [45, 68, 76], [64, 108]] := by
  simp +decide [AtFileM.sccExpand, AtFileM.stripAt, AtFileM.fsEx, AtFileM.splitWs, AtFileM.splitWsFuel]

/-- the options that make gcc / clang write further files next to the object (spellings as byte strings; `-aux-info` takes its
    file name as the next word) -/
def sideOutputOptions : List (List ArgsM.Bytes) :=
  [[[45, 102, 115, 116, 97, 99, 107, 45, 117, 115, 97, 103, 101]],                                             -- -fstack-usage
   [[45, 102, 100, 117, 109, 112, 45, 116, 114, 101, 101, 45, 111, 112, 116, 105, 109, 105, 122, 101, 100]],   -- -fdump-tree-optimized
   [[45, 102, 100, 117, 109, 112, 45, 114, 116, 108, 45, 101, 120, 112, 97, 110, 100]],                        -- -fdump-rtl-expand
   [[45, 102, 99, 97, 108, 108, 103, 114, 97, 112, 104, 45, 105, 110, 102, 111]],                              -- -fcallgraph-info
   [[45, 102, 99, 97, 108, 108, 103, 114, 97, 112, 104, 45, 105, 110, 102, 111, 61, 115, 117]],                -- -fcallgraph-info=su
   [[45, 115, 97, 118, 101, 45, 116, 101, 109, 112, 115, 61, 111, 98, 106]],                                   -- -save-temps=obj
   [[45, 45, 115, 97, 118, 101, 45, 116, 101, 109, 112, 115, 61, 99, 119, 100]],                               -- --save-temps=cwd
   [[45, 102, 115, 97, 118, 101, 45, 111, 112, 116, 105, 109, 105, 122, 97, 116, 105, 111, 110, 45, 114, 101, 99, 111, 114, 100]],   -- -fsave-optimization-record
   [[45, 102, 115, 97, 118, 101, 45, 111, 112, 116, 105, 109, 105, 122, 97, 116, 105, 111, 110, 45, 114, 101, 99, 111, 114, 100, 61, 106, 115, 111, 110]],
   [[45, 97, 117, 120, 45, 105, 110, 102, 111], [112, 46, 116, 120, 116]]]                                      -- -aux-info p.txt

def isRefused : PRes → Bool
  | .cannotCache _ => true
  | _ => false

/-- `side_output_options_refused` (fix F-C01-j, over the **regenerated** tables): `cc -c x.c <option>` is never cacheable, for gcc and
    for clang, for every option of the list — and `-ftime-trace[=file]` for clang.  (A cached result holds the object only; these
    options make the compiler write `.su`, dump, `.ci`, `.i`/`.s`, optimisation-record, prototype and trace files.) -/
theorem side_output_options_refused :
    sideOutputOptions.all (fun o =>
      isRefused (parseArgs (search1 gccArgs) false false false ([[45, 99], [120, 46, 99]] ++ o)) &&
      isRefused (parseArgs (search2 gccArgs clangArgs) true false false ([[45, 99], [120, 46, 99]] ++ o) (search2 gccArgs clangArgs))) = true ∧
    isRefused (parseArgs (search2 gccArgs clangArgs) true false false [[45, 99], [120, 46, 99], [45, 102, 116, 105, 109, 101, 45, 116, 114, 97, 99, 101]] (search2 gccArgs clangArgs)) = true ∧
    isRefused (parseArgs (search2 gccArgs clangArgs) true false false [[45, 99], [120, 46, 99], [45, 102, 116, 105, 109, 101, 45, 116, 114, 97, 99, 101, 61, 116, 46, 106, 115, 111, 110]] (search2 gccArgs clangArgs)) = true ∧
    -- non-vacuity: the same command line without such an option is accepted
    isRefused (parseArgs (search1 gccArgs) false false false [[45, 99], [120, 46, 99]]) = false := by decide +kernel

/-- clang options that name a file whose *contents* steer code generation (spelled `<option>=l.txt`) -/
def listFileOptions : List ArgsM.Bytes :=
  [
   [45, 102, 115, 97, 110, 105, 116, 105, 122, 101, 45, 98, 108, 97, 99, 107, 108, 105, 115, 116, 61, 108, 46, 116, 120, 116],   -- -fsanitize-blacklist=l.txt
   [45, 102, 115, 97, 110, 105, 116, 105, 122, 101, 45, 105, 103, 110, 111, 114, 101, 108, 105, 115, 116, 61, 108, 46, 116, 120, 116],   -- -fsanitize-ignorelist=l.txt
   [45, 102, 115, 97, 110, 105, 116, 105, 122, 101, 45, 99, 111, 118, 101, 114, 97, 103, 101, 45, 97, 108, 108, 111, 119, 108, 105, 115, 116, 61, 108, 46, 116, 120, 116],   -- -fsanitize-coverage-allowlist=l.txt
   [45, 102, 115, 97, 110, 105, 116, 105, 122, 101, 45, 99, 111, 118, 101, 114, 97, 103, 101, 45, 105, 103, 110, 111, 114, 101, 108, 105, 115, 116, 61, 108, 46, 116, 120, 116],   -- -fsanitize-coverage-ignorelist=l.txt
   [45, 102, 120, 114, 97, 121, 45, 97, 108, 119, 97, 121, 115, 45, 105, 110, 115, 116, 114, 117, 109, 101, 110, 116, 61, 108, 46, 116, 120, 116],   -- -fxray-always-instrument=l.txt
   [45, 102, 120, 114, 97, 121, 45, 110, 101, 118, 101, 114, 45, 105, 110, 115, 116, 114, 117, 109, 101, 110, 116, 61, 108, 46, 116, 120, 116],   -- -fxray-never-instrument=l.txt
   [45, 102, 120, 114, 97, 121, 45, 97, 116, 116, 114, 45, 108, 105, 115, 116, 61, 108, 46, 116, 120, 116]]   -- -fxray-attr-list=l.txt

def extraHashOf : PRes → Option (List ArgsM.Bytes)
  | .ok p => some p.extraHash
  | _ => none

/-- `list_files_reach_the_key` (fix F-C01-l, over the **regenerated** tables): for each of these options `clang -c x.c <option>=l.txt` is
    accepted and `l.txt` is in `extra_hash_files` — the list whose file *contents* are digested into the key (`C02`: the extra-file
    digests are a component of the key pre-image).  On the pinned tree only `-fsanitize-blacklist` was there: an edit of an ignore list
    given with the current spelling `-fsanitize-ignorelist=` was answered with the object built under the old list. -/
theorem list_files_reach_the_key :
    listFileOptions.all (fun o =>
      extraHashOf (parseArgs (search2 gccArgs clangArgs) true false false [[45, 99], [120, 46, 99], o] (search2 gccArgs clangArgs)) == some [[108, 46, 116, 120, 116]]) = true ∧
    -- gcc: the spec file of `-specs=l.txt` (fix F-C01-m)
    extraHashOf (parseArgs (search1 gccArgs) false false false [[45, 99], [120, 46, 99], [45, 115, 112, 101, 99, 115, 61, 108, 46, 116, 120, 116]]) = some [[108, 46, 116, 120, 116]] ∧
    -- non-vacuity: without such an option the list is empty
    extraHashOf (parseArgs (search2 gccArgs clangArgs) true false false [[45, 99], [120, 46, 99]] (search2 gccArgs clangArgs)) = some [] := by decide +kernel

/-- the dependency target synthesized for `-MD` / `-MMD` without `-MT` / `-MQ` (fix F-C01-o): an object path without white space, `$`
    and `#` is passed on unchanged — the common case keeps its exact bytes … -/
theorem makeQuote_plain (t : ArgsM.Bytes) (bs : Nat) (h : ∀ c ∈ t, c ≠ 32 ∧ c ≠ 9 ∧ c ≠ 36 ∧ c ≠ 35) : makeQuoteGo bs t = t :=
  ArgsM.makeQuoteGo_plain t bs h

/-- … and the special characters are quoted the way gcc and clang quote their own default target: `a b$c#d.o` ↦ `a\ b$$c\#d.o`,
    and a backslash right before a space is doubled: `e\ f.o` ↦ `e\\\ f.o` (kernel-checked; the real `quote_for_make` is tied through h_args) -/
theorem makeQuote_specials :
    makeQuoteGo 0 [97, 32, 98, 36, 99, 35, 100, 46, 111] = [97, 92, 32, 98, 36, 36, 99, 92, 35, 100, 46, 111] ∧
    makeQuoteGo 0 [101, 92, 32, 102, 46, 111] = [101, 92, 92, 92, 32, 102, 46, 111] := by decide

/-- `dependency_target_reads_back`: for **every** object path (valid UTF-8 — the ones that get quoted), what Make reads back from the
    dependency target sccache synthesizes for `-MD` / `-MMD` (its `$$` → `$`, backslash-`#` → `#`, 2n+1 backslashes before white space → n)
    is the object path itself -/
theorem dependency_target_reads_back (t : ArgsM.Bytes) (h : RArgsM.validUtf8 t = true) : makeUnquote (makeQuote t) = t :=
  ArgsM.makeUnquote_makeQuote t h

end C01
