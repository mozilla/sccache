import SccacheModel.Proofs.Atomic

/-! # C06 — disk cache entries appear atomically and survive crashes intact

Model: `AtomicM` (`Model/Atomic.lean`): inode-level file system, the cache index, and *threads as program
counters* of the two-phase store (`prepare` under the lock, unlocked chunk writes, `commit` = rename under the
lock), lookups (open under the lock, read later through the descriptor), arbitrary evictions, aborts, a crash at
any point followed by the start-up scan.  Any number of threads, any interleaving, any number of steps.
Tie: `harness/src/bin/h_atomic.rs` (real `LruDiskCache`, real descriptors) + `modeld atomic`. -/

namespace C06
open AtomicM

/-- `get_complete`: in **every** interleaving, what a lookup (or any process that opens the key's path, C10)
    reads is the complete body of one store whose destination was that key — never partial, mixed or foreign. -/
theorem get_complete (acts : List Act) (a : Act) (tid : Nat) (c : Content) :
    let s := run Sys.init acts
    (step s a).2 = .hit tid c →
    ∃ k i, s.threads tid = .getReading k i ∧ c.key = k ∧ c.written = c.total :=
  AtomicM.get_complete acts a tid c

/-- `get_stored_value`: what a lookup returns is **byte-identical to a value that some store of the history was asked
    to put under exactly that key** (same key, same value identity, same length) and it is complete: never a foreign
    entry, never a mixture, never a prefix. -/
theorem get_stored_value (acts : List Act) (tid : Nat) (c : Content)
    (h : (step (run Sys.init acts) (.getRead tid)).2 = .hit tid c) :
    (∃ putter, Act.spawnPut putter c.key c.val c.total ∈ acts) ∧ c.written = c.total ∧
      ∃ i, (run Sys.init acts).threads tid = .getReading c.key i :=
  AtomicM.get_stored_value acts tid c h

/-- `crash_safe`: a crash after **any** prefix of any interleaving, followed by the start-up scan, leaves no
    temporary name, an index equal to the set of key files, and every key file complete and its own. -/
theorem crash_safe (acts : List Act) :
    let s := (step (run Sys.init acts) .crash).1
    (∀ t, s.names (.tmp t) = none) ∧
    (∀ k, s.idx k = (s.names (.key k)).isSome) ∧
    (∀ k i, s.names (.key k) = some i → (s.inodes i).key = k ∧ (s.inodes i).written = (s.inodes i).total) :=
  AtomicM.crash_safe acts

/-- the invariant behind both, exported: it holds in every reachable state -/
theorem invariant_reachable (acts : List Act) : AInv (run Sys.init acts) :=
  reachable acts

/-- non-vacuity: a concrete interleaving of two stores to one key with a reader that opened in between really
    produces a hit (so `get_complete` speaks about something) -/
example : (match (step (run Sys.init demoActs) (.getRead 2)).2 with
           | .hit _ c => c.key == 7 && c.val == 100 && c.written == c.total | _ => false) = true := by decide

end C06
