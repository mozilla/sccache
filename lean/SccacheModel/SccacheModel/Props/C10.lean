import SccacheModel.Proofs.Atomic

/-! # C10 — outputs restored from the cache replace existing files atomically

`CacheRead::extract_objects` installs each output by the same discipline as the disk cache's two-phase store:
a temporary file **in the destination directory**, chunk writes into it, then `rename` over the output path on
success — or the temporary file is dropped when the member cannot be decoded, and extraction stops (non-optional
member) or continues (optional member).  So one extraction of one output *is* a `put` thread of `Model/Atomic.lean`
whose key is the output path (`putPrepare`, `putWrite`*, `putCommit` | `putAbort`), and a process that opens the
output path at any moment is an `extOpen` reader.  The theorems below are the Atomic invariant read for that case;
any number of concurrent extractions (two hits restoring the same path) and readers, any interleaving.
Tie: `h_extract` (the real `extract_objects` over existing outputs with descriptors opened beforehand, hard links,
corrupt and missing later members) emitting these actions + `modeld atomic`. -/

namespace C10
open AtomicM

/-- `reader_sees_whole`: in **every** interleaving of extraction steps with reader steps, a process that opened an
    output path — before the hit or at any moment during it — and reads the file in full gets the complete contents
    of exactly one version written for that path: the complete previous file or the complete new one, never a
    truncated or partially written one. -/
theorem reader_sees_whole (acts : List Act) (tid : Nat) (c : Content) :
    let s := run Sys.init acts
    (step s (.getRead tid)).2 = .hit tid c →
    ∃ k i, s.threads tid = .getReading k i ∧ c.key = k ∧ c.written = c.total :=
  AtomicM.get_complete acts (.getRead tid) tid c

/-- in every reachable state every output path holds a complete file of its own (never partial data) -/
theorem outputs_always_complete (acts : List Act) (k i : Nat) (h : (run Sys.init acts).names (.key k) = some i) :
    ((run Sys.init acts).inodes i).key = k ∧ ((run Sys.init acts).inodes i).written = ((run Sys.init acts).inodes i).total :=
  ((reachable acts).bound k i h).2

/-- `partial_failure_clean`: when restoring a member fails part-way (the thread is still writing its temporary
    file), dropping it leaves **every** output path bound to exactly what it was bound to, and the temporary name is gone -/
theorem partial_failure_clean (s : Sys) (tid k v t i total : Nat) (h : s.threads tid = .putWriting k v t i total) :
    (∀ k', (putAbort s tid).1.names (.key k') = s.names (.key k')) ∧ (putAbort s tid).1.names (.tmp t) = none := by
  simp only [putAbort, h]
  exact ⟨fun _ => upd_tmp_key _ _ _ _, upd_same _ _ _⟩

/-- an existing file is never written through: the inode bound to an output path before a successful restore keeps
    its contents (a reader holding it, or a hard link to it, keeps the old bytes) -/
theorem old_inode_untouched (s : Sys) (tid : Nat) (j : Nat) (hinv : AInv s) (k i : Nat) (hb : s.names (.key k) = some i)
    (hj : j = i) : ((putCommit s tid).1.inodes j) = s.inodes j := by
  subst hj
  exact bound_inode_untouched hinv hb (.putCommit tid)

/-- non-vacuity: the demo schedule of `Proofs/Atomic.lean` read as C10 — a reader that opened the path before the
    second restore committed still reads the complete first version -/
example : (match (step (run Sys.init demoActs) (.getRead 2)).2 with
           | .hit _ c => c.val == 100 && c.written == c.total | _ => false) = true := by decide

end C10
