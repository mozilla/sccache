import SccacheModel.Proofs.RustKey
import SccacheModel.Proofs.RustArgs
import SccacheModel.Gen.RustArgs

/-! # C05 — wrapped rustc compiles are identical to direct ones and keyed on all inputs

Model: `RustKeyM` (`Model/RustKey.lean`): the pre-image `RustHasher::generate_hash_key` feeds to the digest — version
tag, sysroot shared-library digests, the argument string (arguments with `--extern`, `-L`, `--out-dir` and a json
`--target` dropped, the `--cfg` group sorted, concatenated and hashed as one string), source / extern / static-lib /
target-json digests, sorted env-deps, the `CARGO_*` variables, the working directory, `rustc -vV`; framing of
`OsString` / `String` / `PathBuf` as std `Hash` writes it.
Argument parser: `RArgsM` (`Model/RustArgs.lean` over the **regenerated** rustc table `Gen/RustArgs.lean`): `ArgsIter` on the
lossy string, the value types (`ArgCodegen`, `ArgCrateTypes`, `ArgExtern`, `ArgLinkLibrary`, `ArgLinkPath`, `ArgTarget`,
`ArgUnstable`) with their re-rendering, the classification loop and the post-loop checks of `rust::parse_arguments`; tied through
hook H7 by `h_rustargs` + `modeld rustargs`.
Tie: `h_framing` (framing, byte-exact) + `modeld framing`; system monitor `tools/sys_c05.py`: real sccache + rustc 1.95
on a generated crate (module, `include_str!`, `env!`, cfg feature, extern rlib): each input edit must miss, each
reordering must hit, every request must equal a direct rustc run (exit status, stderr, every file in `--out-dir`). -/

namespace C05
open RustKeyM

/-- `rust_key_perm`: two requests whose non-`--cfg` hashed arguments agree in order and whose `--cfg` arguments are
    permutations of each other (other hashed components equal) have the same key pre-image — reordering `--cfg`
    does not prevent reuse -/
theorem rust_key_perm (r1 r2 : RReq) (hrest : restArgs r1 = restArgs r2) (hcfg : (cfgArgs r1).Perm (cfgArgs r2))
    (h1 : r1.version = r2.version) (h2 : r1.shlibDigests = r2.shlibDigests) (h3 : r1.sourceHashes = r2.sourceHashes)
    (h4 : r1.externHashes = r2.externHashes) (h5 : r1.staticlibHashes = r2.staticlibHashes)
    (h6 : r1.targetJsonHash = r2.targetJsonHash) (h7 : r1.envDeps = r2.envDeps) (h8 : r1.cargoEnv = r2.cargoEnv)
    (h9 : r1.cwd = r2.cwd) (h10 : r1.rustcVersion = r2.rustcVersion) : encRust r1 = encRust r2 :=
  RustKeyM.rust_key_perm r1 r2 hrest hcfg h1 h2 h3 h4 h5 h6 h7 h8 h9 h10

/-- `--extern`, `-L` and `--out-dir` arguments never enter the argument string, in any position or number: those
    inputs reach the key through content digests only (so moving / reordering them does not prevent reuse) -/
theorem rust_key_ignores_extern_paths (r : RReq) (extra : List RArg)
    (hx : ∀ a ∈ extra, (flagIs fExtern a || flagIs fL a || flagIs fOutDir a) = true) :
    argString { r with args := r.args ++ extra } = argString r := RustKeyM.rust_key_ignores_extern_paths r extra hx

/-- the framing of one argument is injective: equal framed bytes, equal arguments (length prefix) -/
theorem encArg_inj (a b : Bytes) (ha : a.length < 2 ^ 64) (hb : b.length < 2 ^ 64) (h : encArg a = encArg b) : a = b := by
  have hl := congrArg List.length h
  simp only [encArg, le64, List.length_append, List.length_map, Nat.add_left_cancel_iff] at hl
  exact (List.append_inj' h hl).2

/-- F-C05-a (negative, kernel-checked, open): the `name=` half of `--extern name=path` is in no key component, and the
    extern digests are taken in sorted *path* order — swapping which crate name is bound to which rlib keeps the key.
    Replayed on the real binary + rustc by `tools/sys_c05.py extern_alias` (the second request is a hit that delivers
    the first rlib). -/
theorem extern_alias_witness :
    encRust (exSwap true) = encRust (exSwap false) ∧ (exSwap true).args ≠ (exSwap false).args :=
  RustKeyM.extern_alias_witness

/-- `rust_args_complete`: when the classification loop of `parse_arguments` runs to its end, the argument list it hands to
    `generate_hash_key` is — in order — **every** argument of the command line except the `--color` ones: nothing else is dropped,
    duplicated or reordered, for every command line and every table. -/
theorem rust_args_complete (cwd : RArgsM.Bytes) (toks : List (Option RArgsM.Tok)) (st st' : RArgsM.St)
    (h : RArgsM.loop cwd st toks = .ok st') :
    ∃ ts : List RArgsM.Tok, toks = ts.map some ∧
      st'.args = st.args ++ (ts.filter (fun t => !t.isColor)).map RArgsM.tokArg := RArgsM.loop_args cwd toks st st' h

/-- of the parsed arguments, exactly those whose flag is `--extern`, `-L`, `--out-dir` (and `--target` when it names a json file,
    which is hashed by content) are left out of the argument string; every other one is part of it -/
theorem hashed_args_cover (r : RReq) (a : RArg) (ha : a ∈ r.args)
    (h1 : (flagIs fExtern a || flagIs fL a || flagIs fOutDir a) = false) (h2 : (r.targetJson && flagIs fTarget a) = false) :
    a ∈ hashedArgs r := by
  unfold hashedArgs
  simp only [List.mem_filter]
  exact ⟨⟨ha, by simp [h1]⟩, by simp [h2]⟩

/-- `externs_order_independent`: the sorted extern list (and with it the order in which the extern digests enter the key) does not
    depend on the order of the `--extern` arguments — as lists of path components (`a//b` and `a/b` are one file) -/
theorem externs_order_independent (l1 l2 : List RArgsM.Bytes) (h : l1.Perm l2) :
    (l1.mergeSort RArgsM.lePath).map RArgsM.comps = (l2.mergeSort RArgsM.lePath).map RArgsM.comps :=
  RArgsM.sorted_externs_perm_eq l1 l2 h

/-- sorting the externs only reorders them (nothing lost or invented) -/
theorem rust_externs_perm (l : List RArgsM.Bytes) : (l.mergeSort RArgsM.lePath).Perm l := List.mergeSort_perm l _

/-- over the **whole regenerated** rustc table: no two entries share a name, and the entries are in the order the binary
    search of `ArgsIter` needs (strictly increasing byte-wise) -/
theorem rust_table_sorted :
    List.Pairwise (fun (a b : RArgsM.RInfo) => RArgsM.cmpBytes a.name b.name = .lt) RArgsM.rustArgs :=
  RArgsM.pairwise_lt_of_chain _ _ (by decide +kernel)

/-- the emit kinds that are cached are the three the model of `finish` accepts (regenerated `ALLOWED_EMIT`) -/
theorem rust_allowed_emit :
    RArgsM.allowedEmit = [[108, 105, 110, 107], [109, 101, 116, 97, 100, 97, 116, 97], [100, 101, 112, 45, 105, 110, 102, 111]] := rfl

/-- non-vacuity: a cargo-like command line parses, `--color` is dropped -/
example :
    (match RArgsM.parseArguments RArgsM.rustArgs RArgsM.allowedEmit (fun _ => false) [47, 119]
        [[45, 45, 99, 114, 97, 116, 101, 45, 110, 97, 109, 101], [102], [108, 46, 114, 115], [45, 45, 99, 114, 97, 116, 101, 45, 116, 121, 112, 101, 61, 108, 105, 98],
         [45, 45, 101, 109, 105, 116, 61, 108, 105, 110, 107], [45, 45, 111, 117, 116, 45, 100, 105, 114], [111], [45, 45, 99, 111, 108, 111, 114, 61, 110, 101, 118, 101, 114],
         [45, 45, 101, 120, 116, 101, 114, 110, 61, 97, 61, 121]] with
     | .ok st _ _ _ _ => st.args.length == 6 && st.externs == [[121]] && st.color == .off
     | _ => false) = true := by decide +kernel

end C05
