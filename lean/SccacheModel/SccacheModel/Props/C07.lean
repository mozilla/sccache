import SccacheModel.Proofs.LruReadOnly
import SccacheModel.Proofs.LruSync

/-! # C07 — the disk cache stays within its size limit, evicts in LRU order, never wedges

Property theorems only (statements restated here so that a weakened lemma in `Proofs/` cannot silently weaken
the claim).  Model: `LruM.Lru` (`Model/Lru.lean`), a transcription of `lru_disk_cache::LruDiskCache` tied to the
real code by `harness/src/bin/h_lru.rs` + `modeld lru`. -/

namespace C07
open LruM LruM.Lru

/-- After **every** sequence of public operations (insert, two-phase store with more or less than reserved,
    dropped entries, lookups, removals, external deletions, reopen with any mtime order) the indexed bytes plus the
    reserved bytes never exceed the capacity — (`poisoned` never becomes true, see `no_panic`). -/
theorem size_limit (cap : Nat) (ops : List LOp) :
    let c := ops.foldl lstep { cap := cap }
    c.poisoned = false → c.lruSize + c.pendingSize ≤ c.cap := Lru.size_limit cap ops

/-- non-vacuity: a reachable, non-poisoned state with an eviction behind it -/
example : let c := [LOp.insertBytes 1 10, .insertBytes 2 10, .prepareAdd 3 5].foldl lstep { cap := 20 }
    c.poisoned = false ∧ c.lruSize + c.pendingSize = 15 := by decide

/-- `index_eq_disk`: after **every** sequence of public operations (nobody else deletes entry files; a reopen sees the
    directory as it is) every indexed entry exists on disk with exactly the recorded size, no other entry file exists
    (`entries` is a permutation of `files`), and no key is indexed twice. -/
theorem index_eq_disk (cap : Nat) (ops : List LOp) (h : GoodHistory { cap := cap } ops) :
    let c := ops.foldl lstep { cap := cap }
    c.entries.Perm c.files ∧ KeysNodup c.entries := Lru.index_eq_disk cap ops h

/-- `evicts_lru_prefix`: whenever space is made, what is removed is a **prefix of the recency order** — strictly the
    least recently used entries first (the index is kept oldest-first). -/
theorem evicts_lru_prefix (c c' : Lru) (n : Nat) (r : Res) (h : c.makeSpace n = (c', r)) (hs : Sync c) :
    ∃ m, c'.entries = c.entries.drop m :=
  let ⟨m, e⟩ := Lru.makeSpace_evicts h; ⟨m, e ▸ rfl⟩

/-- a successful lookup counts as use: the key moves to the recent end and nothing else changes order -/
theorem get_moves_to_back (c : Lru) (k : Key) (e : Key × Nat) (h : c.entries.find? (·.1 == k) = some e) :
    (c.get k).1.entries = eraseKey c.entries k ++ [e] := by
  rw [Lru.get_some h]

/-- a store puts its key at the recent end -/
theorem insert_at_back (c : Lru) (k : Key) (n : Nat) (h : c.lruSize + n ≤ c.cap) :
    (c.lruInsert k n).entries = eraseKey c.entries k ++ [(k, n)] := by
  rw [Lru.lruInsert_eq c k n h]

/-- recency survives a restart: re-opening a directory that fits indexes the files in the order given (oldest mtime
    first), so the eviction order afterwards is the mtime order -/
theorem reopen_order_is_mtime_order (c : Lru) (order : List (Key × Nat)) (hfit : (order.map (·.2)).sum ≤ c.cap) :
    (c.reopen order).files = order := Lru.reopen_keeps_files c order hfit

/-- non-vacuity of `index_eq_disk`: a history with an overwrite, an eviction, a two-phase store and a reopen -/
example : GoodHistory { cap := 20 } [.insertBytes 1 10, .insertBytes 2 10, .insertBytes 1 10, .prepareAdd 3 5, .write 0 5, .commit 0, .get 1, .reopen [(3, 5), (1, 10)]] := by
  simp only [GoodHistory, NoExt, ReopenFaithful, and_true, true_and]
  decide

/-- `no_panic`: no sequence of public operations — including several concurrent reservations that together exceed
    the limit, overwrites of existing keys, dropped entries, externally deleted files and reopenings — makes the cache
    panic (which inside `DiskCache` would poison its mutex for good), and none leaves it poisoned. -/
theorem no_panic (cap : Nat) (ops : List LOp) (next : LOp) :
    let c := ops.foldl lstep { cap := cap }
    c.poisoned = false ∧ lres c next ≠ .panic := Lru.no_panic cap ops next

/-- `oversize_refused`: an entry larger than the whole cache is refused and the state (index, files, reservations)
    is exactly what it was. -/
theorem oversize_refused (c : Lru) (k n : Nat) (h : n > c.cap) :
    c.insertBytes k n = (c, .tooLarge) ∧ c.prepareAdd k n = (c, .tooLarge) := Lru.oversize_refused c k n h

/-- `oversize_commit_refused` (fix F-C07-d): a two-phase store whose body turned out larger than the whole cache is refused at commit
    **without an eviction**: the entries (and their files) are exactly what they were -/
theorem oversize_commit_refused (c : Lru) (h : Nat) (p : Pend) (hf : c.temps.find? (·.handle == h) = some p) (hbig : p.written > c.cap) :
    (c.commit h).2 = .tooLarge ∧ (c.commit h).1.entries = c.entries ∧ (c.commit h).1.files = c.files := by
  simp only [Lru.commit, hf, hbig, if_true, and_self]

/-- F-C07-a, repaired in /repo: over-reservation with an empty index is refused (was a panic on the pinned tree) -/
theorem over_reservation_refused :
    ((({ cap := 25 } : Lru).prepareAdd 1 15).1.prepareAdd 2 15).2 = .tooLarge := by decide

/-- F-C07-b, repaired in /repo: overwriting the least-recently-used key keeps the file just written -/
theorem self_eviction_fixed :
    let c := (((({ cap := 20 } : Lru).insertBytes 1 10).1.insertBytes 2 10).1.insertBytes 1 10).1
    c.containsKey 1 = true ∧ c.files.any (·.1 == 1) = true := by decide

/-- F-C07-c (negative, kernel-checked, open): the reservation of a dropped entry is never released — after
    `prepare_add(9)` + drop on a cache of 10 bytes, 9 bytes stay reserved for ever and a 2-byte insert is refused. -/
theorem reservation_leak_witness :
    let c := [LOp.prepareAdd 0 9, .dropEntry 0].foldl lstep { cap := 10 }
    c.pendingSize = 9 ∧ c.temps = [] ∧ (c.insertBytes 1 2).2 = .tooLarge := by decide

/-- a lookup never changes which files exist -/
theorem get_keeps_files (c : Lru) (k : Key) : (c.get k).1.files = c.files := Lru.get_keeps_files c k

end C07
