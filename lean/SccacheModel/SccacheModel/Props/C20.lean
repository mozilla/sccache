import SccacheModel.Proofs.Startup
import SccacheModel.Proofs.Idle
import SccacheModel.Proofs.Shutdown

/-! # C20 — one server per address: cold starts converge, shutdown is graceful, idle exit not before its time

Models: `StartupM` (`Model/Startup.lean`): the OS address table (an exclusive `bind` fails when the address is bound: a TCP port, and
since fix F-C20-a a Unix-socket path too — lock file, liveness probe, only then unlink + bind; the unrepaired unlink-then-bind is kept as `unixSocket := true`), clients (`connect`; on refusal spawn a server and wait for its
notification; `AddrInUse` ⇒ reconnect), servers (bind, notify, serve); any number of clients, any interleaving.
`IdleM` (`Model/Idle.lean`): the inactivity timer with a logical clock.
`ShutM` (`Model/Shutdown.lean`): the whole life of a running server — serving, drain after a stop request or the idle expiry, exit —
with connections and a millisecond clock; tied step by step to the real `SccacheServer::run` by `h_server` + `modeld shutdown`.
Tie: `tools/sys_c20.py` — process census of real cold starts with 2…N simultaneous clients over TCP and over a Unix
socket, replay of the model's Unix witness on the real binary, stop during an in-flight compile, measured idle exit.
Partial: schedules of real processes cannot be enumerated; the real runs are checked against what the model allows. -/

namespace C20
open StartupM

/-- `tcp_singleton` (since fix F-C20-a this is the statement for Unix-socket addresses too: both binds are exclusive): in **every** interleaving of any number of simultaneously started clients
    (each possibly spawning a server), at most one server is ever serving -/
theorem tcp_singleton (k : Nat) (as : List SAct) (s1 s2 : Nat)
    (h1 : (srun (Net.init false k) as).servers[s1]? = some .serving)
    (h2 : (srun (Net.init false k) as).servers[s2]? = some .serving) : s1 = s2 :=
  StartupM.tcp_singleton k as s1 s2 h1 h2

/-- F-C20-a (fixed; kernel-checked witness of the unrepaired bind): with unlink-then-bind two clients starting together end with two
    servers serving — the second unlinks the first one's socket and rebinds; the first stays alive, unreachable -/
theorem unix_second_server :
    let n := srun (Net.init true 2) [.connect 0, .connect 1, .bind 0, .bind 1]
    servingCount n = 2 ∧ n.bound = some 1 := StartupM.unix_second_server

/-- `idle_not_before`: for every sequence of request arrivals and polls, if the server exits by inactivity at time `t`
    then the idle period `T` has fully elapsed since the last request arrival (and `T ≠ 0`) -/
theorem idle_not_before (T t0 : Nat) (evs : List IdleM.Ev) (t : Nat)
    (h : (IdleM.run (IdleM.init T t0) evs).exited = some t) :
    (IdleM.run (IdleM.init T t0) evs).last + T ≤ t ∧ T ≠ 0 := by
  have := (IdleM.inv_run evs _ (IdleM.inv_init T t0)).late t h
  rwa [IdleM.run_T] at this

/-- with `SCCACHE_IDLE_TIMEOUT=0` the server never exits by inactivity -/
theorem idle_disabled_never_exits (t0 : Nat) (evs : List IdleM.Ev) : (IdleM.run (IdleM.init 0 t0) evs).exited = none := by
  cases h : (IdleM.run (IdleM.init 0 t0) evs).exited with
  | none => rfl
  | some t => exact absurd rfl (idle_not_before 0 t0 evs t h).2

/-- non-vacuity: a request at time 5 re-arms a 10-unit timer; polling at 14 does nothing, at 15 the server exits -/
example : (IdleM.run (IdleM.init 10 0) [.request 5, .poll 14]).exited = none ∧
          (IdleM.run (IdleM.init 10 0) [.request 5, .poll 14, .poll 15]).exited = some 15 := by decide

section Shutdown
open ShutM

/-- the grace period of the model is the constant of the source (`SHUTDOWN_TIMEOUT`), in milliseconds -/
def graceMs : Nat := GenC.shutdownGraceSecs * 1000
theorem grace_pos : 0 < graceMs := by decide

theorem shutdown_inv (T : Nat) (evs : List Ev) : Inv T graceMs (run (init T graceMs) evs) :=
  inv_run grace_pos evs _ (inv_init T graceMs)

/-- `idle_drain_not_before`: in every timed history of connections, requests, closes and stop requests, if the server
    left its serving phase without a stop request, then the idle period `T` had fully elapsed since the last request
    arrival (and `T ≠ 0`: with the timer disabled it never does) -/
theorem idle_drain_not_before (T : Nat) (evs : List Ev) (d : Nat)
    (h : (run (init T graceMs) evs).drainAt = some d) (hs : (run (init T graceMs) evs).byStop = false) :
    T ≠ 0 ∧ d = (run (init T graceMs) evs).last + T := by
  simpa [hs] using (shutdown_inv T evs).cause d h

/-- `stop_is_graceful`: whenever the server has exited at time `e`, the drain began at some `d ≤ e`, the exit came no later
    than the grace period after it, and **if a connection was still open (a request in flight) the whole grace period had
    been granted** -/
theorem stop_is_graceful (T : Nat) (evs : List Ev) (e : Nat) (h : (run (init T graceMs) evs).phase = .exited e) :
    ∃ d, (run (init T graceMs) evs).drainAt = some d ∧ d ≤ e ∧ e ≤ d + graceMs ∧
         ((run (init T graceMs) evs).conns ≠ [] → e = d + graceMs) := by
  simpa only [h] using (shutdown_inv T evs).phase

/-- `stop_terminates`: once the drain has begun at `d`, the server is gone by `d + grace` whatever the clients do -/
theorem stop_terminates (T : Nat) (evs : List Ev) (d : Nat) (h : (run (init T graceMs) evs).drainAt = some d)
    (ht : d + graceMs ≤ (run (init T graceMs) evs).now) : ∃ e, (run (init T graceMs) evs).phase = .exited e := by
  have hp := (shutdown_inv T evs).phase
  cases hph : (run (init T graceMs) evs).phase with
  | running dl => simp only [hph] at hp; rw [hp.1] at h; cases h
  | draining since =>
    simp only [hph] at hp
    obtain ⟨h1, _, _, h4⟩ := hp
    rw [h1] at h; cases h; omega
  | exited e => exact ⟨e, rfl⟩

/-- `inflight_served_during_drain`: a connection that is open when the drain begins keeps being served until the grace
    period is over -/
theorem inflight_served_during_drain (s : Srv) (since c t : Nat) (hp : s.phase = .draining since) (hc : c ∈ s.conns)
    (ht : max s.now t < since + s.grace) : (step s (.request t c)).2 = .served := by
  have hgr : ¬ since + s.grace ≤ max s.now t := by omega
  show (act (advance s t) (.request t c)).2 = .served
  rw [adv_drain s t since hp hgr]
  simp only [act, hp, hc, if_true]

/-- after the drain has begun nobody new is let in -/
theorem no_new_connection_after_drain (s : Srv) (t since : Nat) (hp : (advance s t).phase = .draining since) :
    (step s (.connect t)).2 = .refused := by
  show (act (advance s t) (.connect t)).2 = .refused
  simp only [act, hp]

/-- non-vacuity (T = 5 s, grace = 10 s): connection 0 opens at 100 ms and asks at 1.2 s; the timer expires at 6.2 s; a connect at
    7 s is refused, the open connection is still served at 8 s; at 16.2 s the server is gone.  With a stop request at 2 s
    and the connection closed at 3 s the server exits at 3 s. -/
example : outs (init 5000 graceMs) [.connect 100, .request 1200 0, .connect 7000, .request 8000 0, .tick 16199, .request 16200 0]
          = [.accepted 0, .served, .refused, .served, .none, .dead] := by decide
example : (run (init 5000 graceMs) [.connect 100, .request 1200 0, .tick 20000]).phase = .exited 16200 := by decide
example : (run (init 5000 graceMs) [.connect 100, .stop 2000 0, .close 3000 0]).phase = .exited 3000 := by decide
example : (run (init 0 graceMs) [.connect 100, .request 1200 0, .tick 100000000]).phase = .running none := by decide

end Shutdown

end C20
