import SccacheModel.Proofs.Memo
import SccacheModel.Props.C02

/-! # C12 — replacing the compiler binary invalidates its results without a restart

Model: `MemoM` (`Model/Memo.lean`): the server's per-path memo of compiler detection, `(digest, mtime)`, reused iff
the mtime of the file now at the path equals the memoised one, else re-detected and re-digested
(`SccacheService::compiler_info`).  Tie: `h_memo` (the real `compiler_info` + `get_cached_or_compile` with a
key-logging `Storage`, swap histories over contents × mtimes) + `modeld memo`; system monitor: swap histories (copy
with a fresh mtime, symlink retargeting) against a real server, each request compared with a direct run of the
compiler then at the path. -/

namespace C12
open MemoM

/-- `memo_fresh`: for **every** history of binaries installed at the path in which binaries with equal mtime have
    equal contents (the statement's "different contents and modification time"), the digest used for each request
    is the digest of the binary then at the path. -/
theorem memo_fresh (bs : List Bin) (h : MtimeDeterminesContent bs) : digestsUsed none bs = bs.map (·.content) :=
  MemoM.memo_fresh bs h

/-- with C02: two requests that differ in the compiler digest never share a key (modulo an explicit hash collision),
    so nothing produced by one binary is returned for another, whatever their path or name -/
theorem different_binaries_different_keys (H : CK.Bytes → CK.Bytes) (r₁ r₂ : CK.CReq) (w₁ : CK.WF r₁) (w₂ : CK.WF r₂)
    (e₁ : C02.NoTagExtension r₁) (e₂ : C02.NoTagExtension r₂) (hd : r₁.digest ≠ r₂.digest) :
    C02.key H r₁ ≠ C02.key H r₂ ∨ C02.Collision H (CK.encHash r₁) (CK.encHash r₂) :=
  C02.key_separates H r₁ r₂ w₁ w₂ e₁ e₂ fun s => hd s.digest

/-- outside the hypothesis (negative, kernel-checked, recorded — not a violation of the statement): a replacement
    that restores an earlier mtime with new contents defeats the memo -/
theorem memo_stale_witness : digestsUsed none [⟨1, 10⟩, ⟨2, 10⟩] = [1, 1] := MemoM.memo_stale_witness

/-- non-vacuity of `memo_fresh`: swap, swap back, touch -/
example : MtimeDeterminesContent [⟨1, 10⟩, ⟨2, 20⟩, ⟨1, 10⟩, ⟨1, 30⟩] ∧ digestsUsed none [⟨1, 10⟩, ⟨2, 20⟩, ⟨1, 10⟩, ⟨1, 30⟩] = [1, 2, 1, 1] := by
  unfold MtimeDeterminesContent
  decide

/-- `names_never_share_an_entry`: the in-memory compiler map is keyed so that two requests using one entry were made under the same
    file name: driver names that are links to one binary (`gcc` / `g++`, `clang` / `clang++`) never inherit each other's detected
    compiler, for every file system (`nameOf`, canonical paths arbitrary) -/
theorem names_never_share_an_entry (nameOf : Nat → Nat) (r₁ r₂ : MemoM.Req) (h : MemoM.memoKey nameOf r₁ = MemoM.memoKey nameOf r₂) :
    nameOf r₁.self = nameOf r₂.self := MemoM.names_never_share_an_entry nameOf r₁ r₂ h

/-- the rule "always canonicalize" (seeded change S-C01-3) makes `gcc` and `g++` share an entry; the real rule keeps them apart -/
theorem always_canonicalize_collapses_witness :
    let nameOf : Nat → Nat := fun p => if p = 1 then 10 else if p = 2 then 20 else 30
    (⟨1, 3⟩ : MemoM.Req).canon = (⟨2, 3⟩ : MemoM.Req).canon ∧ MemoM.memoKey nameOf ⟨1, 3⟩ = 1 ∧ MemoM.memoKey nameOf ⟨2, 3⟩ = 2 :=
  MemoM.always_canonicalize_collapses_witness

end C12
