import SccacheModel.Proofs.ServerL1
import SccacheModel.Proofs.Spec
import SccacheModel.Proofs.LruReadOnly
import SccacheModel.Proofs.Config

/-! # C15 — read-only cache mode never adds, changes or removes entries

In read-only mode `DiskCache::put` and `put_preprocessor_cache_entry` refuse before touching the index, and the
server wraps the storage in `ReadOnlyStorage`; what remains is lookup (`get` = index lookup + touch + open) and the lazy
start-up scan.  L0: every store refused ⇒ the cache content never changes; L1: a refused store never changes a reply;
L2 (`Model/Lru.lean`): lookups never change the set of files; the start-up scan keeps every file if the
directory is within its size limit (`reopen_evicts_witness`, finding F-C15-a, otherwise).
Configuration (`Model/Config.lean`, tied to the real `Config::load` by `h_config`): *when* the cache is read-only —
`config_read_only_from_env`, `config_read_only_from_file_partial`, the open finding `config_file_read_only_dropped_witness`.
Tie: `h_lru` (get / reopen steps), `h_l1` (store_ok = false rows), system harness `tools/sys_transparency.py` (recursive
listing with content digests of a pre-populated cache before and after a request history under READ_ONLY). -/

namespace C15
open L0

/-- `readonly_unchanged`: with every store refused, **no** history of requests (hits, misses, failures, with or without
    lookup faults) and restarts changes the cache -/
theorem readonly_unchanged (cc : CC) (c : Cache) (es : List Ev)
    (hro : ∀ e ∈ es, match e with | .request _ _ sf => sf = true | .restart => True | _ => False) :
    erun cc c es = c := L0.readonly_unchanged cc c es hro

/-- existing entries are still served as hits, misses are compiled with the compiler's own result -/
theorem readonly_serves_and_compiles (cc : CC) (c : Cache) (hs : Sound cc c) (fp : Nat) (o : Obs)
    (h : (estep cc c (.request fp false true)).2 = some o) :
    o.reply = cc fp ∧ (o.ranCompiler = false ↔ (c fp).isSome) := by
  rw [request_obs cc c hs] at h
  cases h
  exact ⟨rfl, by simp⟩

/-- a refused store never changes what the client gets -/
theorem store_outcome_irrelevant (i : L1.In) (b : Bool) : L1.decide1 { i with storeOk := b } = L1.decide1 i :=
  L1.store_outcome_irrelevant i b

/-- a lookup never changes which files exist (it only moves the key to the recent end and touches its times) -/
theorem get_keeps_files (c : LruM.Lru) (k : LruM.Key) : (c.get k).1.files = c.files := LruM.Lru.get_keeps_files c k

/-- `reopen_keeps_files_partial` (partial — needs the directory to fit): the start-up scan of a directory whose total size
    is within the limit keeps every file -/
theorem reopen_keeps_files_partial (c : LruM.Lru) (order : List (LruM.Key × Nat)) (hfit : (order.map (·.2)).sum ≤ c.cap) :
    (c.reopen order).files = order := LruM.Lru.reopen_keeps_files c order hfit

/-- the read-write start-up scan evicts a pre-populated directory larger than `SCCACHE_CACHE_SIZE` (intended); before fix a5fe656 a
    read-only cache was opened the same way (F-C15-a) -/
theorem reopen_evicts_witness : (({ cap := 15 } : LruM.Lru).reopen [(1, 10), (2, 10)]).files = [(2, 10)] :=
  LruM.Lru.reopen_evicts_witness

/-- `readonly_session_keeps_files` (fix a5fe656; `reopen_keeps_files_partial` at full strength): a read-only cache is opened without a size limit, so its start-up scan and
    **every** sequence of lookups after it leave exactly the files that were there — for every configured size, also one smaller than
    the directory.  (`h64`: the directory holds fewer than 2^64 bytes.) -/
theorem readonly_session_keeps_files (c : LruM.Lru) (order : List (LruM.Key × Nat)) (ks : List LruM.Key)
    (h64 : (order.map (·.2)).sum ≤ LruM.Lru.u64Max) :
    (ks.foldl (fun acc k => (acc.get k).1) (c.openReadOnly order)).files = order :=
  LruM.Lru.readOnly_session_keeps_files c order ks h64

/-- F-C15-a fixed witness: the directory of `reopen_evicts_witness`, opened read-only with the same configured size -/
theorem readonly_open_fixed_witness : ((({ cap := 15 } : LruM.Lru).openReadOnly [(1, 10), (2, 10)]).files) = [(1, 10), (2, 10)] :=
  LruM.Lru.openReadOnly_keeps_files _ _ (by decide)

/-! ## when is the cache configured read-only (`ConfigM`, the real `Config::load`) -/
open ConfigM in
/-- `SCCACHE_LOCAL_RW_MODE=READ_ONLY` makes the loaded configuration read-only (and the server wrap its storage in
    `ReadOnlyStorage`) for **every** value of the other variables and **every** `[cache.disk]` section of the file -/
theorem config_read_only_from_env (e : Env) (f : Option FileDisk) (d : Disk) (hl : load e f = .ok d)
    (hr : e.rw = some sReadOnly) : servesReadOnly d = true := by
  have := ConfigM.env_rw_effective e f d hl (Or.inl hr)
  simp [servesReadOnly, this, hr]

open ConfigM in
/-- … and `READ_WRITE` in the environment overrides a read-only file -/
theorem config_read_write_from_env (e : Env) (f : Option FileDisk) (d : Disk) (hl : load e f = .ok d)
    (hr : e.rw = some sReadWrite) : servesReadOnly d = false := by
  have := ConfigM.env_rw_effective e f d hl (Or.inr hr)
  have hne : e.rw ≠ some sReadOnly := by rw [hr]; intro h; injection h with h; exact ConfigM.rw_ne h
  simp [servesReadOnly, this, hne]

open ConfigM in
/-- `rw_mode = "READ_ONLY"` in the file is effective **provided no disk-cache variable counts as set** (partial: see the
    witness below for what happens otherwise) -/
theorem config_read_only_from_file_partial (e : Env) (f : FileDisk) (hf : f.rw = some .readOnly)
    (h1 : e.dir = none) (h2 : sizeOpt (envSize e) = none) (h2' : envSize e ≠ .overflow) (h3 : boolFromEnv e.direct = .ok none)
    (h4 : ¬ (e.rw = some sReadOnly ∨ e.rw = some sReadWrite)) :
    ∃ d, load e (some f) = .ok d ∧ servesReadOnly d = true := by
  have hn := (ConfigM.envDisk_none_iff e).mpr ⟨h1, h2, h2', h3, h4⟩
  exact ⟨fileDisk f, (ConfigM.load_ok_iff ..).mpr ⟨none, hn, rfl⟩, by simp [servesReadOnly, fileDisk, hf]⟩

open ConfigM in
/-- F-C15-b (negative, kernel-checked, open): the environment section replaces the file's `[cache.disk]` **as a whole**.
    With `rw_mode = "READ_ONLY"` in the file and only `SCCACHE_DIR` (or `SCCACHE_CACHE_SIZE`, `SCCACHE_DIRECT`) in the
    environment the cache is read-write — and the file's size and preprocessor-mode options are gone too. -/
theorem config_file_read_only_dropped_witness :
    let e : Env := { dir := some [47, 99] }
    let f : FileDisk := { size := some 5, rw := some .readOnly, pp := some { use := some false } }
    load e (some f) = .ok ⟨some [47, 99], tenGigs, PP.activated, .readWrite⟩ := by decide

open ConfigM in
/-- a mis-spelt mode (`read_only`) is not an override: the file's (or the default) mode stays -/
theorem config_invalid_mode_is_ignored :
    load { rw := some [114, 111] } none = .ok Disk.dflt ∧
    load { rw := some [114, 111] } (some { rw := some .readOnly }) = .ok { Disk.dflt with rw := .readOnly } := by decide

/-- non-vacuity of `config_read_only_from_file_partial` -/
example : ConfigM.sizeOpt (ConfigM.envSize {}) = none ∧ ConfigM.boolFromEnv ({} : ConfigM.Env).direct = .ok none := ⟨rfl, rfl⟩

/-- the configuration model reads the accepted words, the defaults and the suffix table from config.rs / cache.rs **as they are
    now** (regenerated); in particular the cache is read-write by default and `READ_ONLY` is the only word that changes that -/
theorem config_words_are_source_words :
    ConfigM.sReadOnly = GenC.rwReadOnlyWord ∧ ConfigM.sReadWrite = GenC.rwReadWriteWord ∧ ConfigM.Disk.dflt.rw = .readWrite ∧
    GenC.anyOverriddenTerms = 4 := ⟨rfl, rfl, rfl, rfl⟩

end C15
