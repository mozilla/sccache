namespace IdleM

/-! The inactivity timer of the server (`server.rs` `ShutdownOrInactive`), with a logical clock: the timer is re-armed
    to `now + T` on every request *arrival* (`ServerMessage::Request`), `T = 0` disables it, and the future resolves when
    the armed sleep has elapsed.  (The explicit `Shutdown` message and the 10 s drain are in `Model/Shutdown.lean`.) -/

structure Srv where
  T : Nat                    -- SCCACHE_IDLE_TIMEOUT in clock units; 0 = never
  deadline : Option Nat      -- the armed sleep, if any
  last : Nat                 -- time of the last request arrival (or of start-up)
  exited : Option Nat        -- time at which the server exited by inactivity
deriving Repr, DecidableEq

inductive Ev where
  | request (t : Nat)        -- a request arrives at time t
  | poll (t : Nat)           -- the runtime polls the future at time t
deriving Repr, DecidableEq

def arm (T t : Nat) : Option Nat := if T = 0 then none else some (t + T)

def init (T t0 : Nat) : Srv := { T := T, deadline := arm T t0, last := t0, exited := none }

def step (s : Srv) : Ev → Srv
  | .request t => if s.exited.isSome then s else { s with last := t, deadline := arm s.T t }
  | .poll t =>
    if s.exited.isSome then s else
    match s.deadline with
    | some d => if d ≤ t then { s with exited := some t } else s
    | none => s

def run (s : Srv) (evs : List Ev) : Srv := evs.foldl step s

end IdleM
