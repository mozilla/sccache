namespace TM

/-! Literal transcription of `util::TimeMacroFinder`. -/
abbrev Bytes := List UInt8

def maxHay : Nat := 13

def strBytes (s : String) : Bytes := s.toUTF8.toList

def patTimestamp : Bytes := [95, 95, 84, 73, 77, 69, 83, 84, 65, 77, 80, 95, 95]
def patTime : Bytes := [95, 95, 84, 73, 77, 69, 95, 95]
def patDate : Bytes := [95, 95, 68, 65, 84, 69, 95, 95]

/-- `memmem::find(buf, pat).is_some()` -/
def hasInfix (pat : Bytes) : Bytes → Bool
  | [] => pat.isEmpty
  | b :: bs => pat.isPrefixOf (b :: bs) || hasInfix pat bs

structure Finder where
  foundDate : Bool := false
  foundTime : Bool := false
  foundTimestamp : Bool := false
  left : Bytes := List.replicate 13 0     -- overlap_buffer[..13]
  right : Bytes := List.replicate 13 0    -- overlap_buffer[13..]
  fullChunks : Nat := 0
  psr : Bytes := []                        -- previous_small_read
deriving Repr, DecidableEq

def Finder.findMacros (f : Finder) (buf : Bytes) : Finder :=
  { f with
    foundTimestamp := f.foundTimestamp || hasInfix patTimestamp buf
    foundTime := f.foundTime || hasInfix patTime buf
    foundDate := f.foundDate || hasInfix patDate buf }

def padTo (n : Nat) (b : Bytes) : Bytes := b ++ List.replicate (n - b.length) 0

def lastN (n : Nat) (b : Bytes) : Bytes := b.drop (b.length - n)

/-- search several buffers in turn (each `self.find_macros(buf)` call) -/
def Finder.search (f : Finder) (bufs : List Bytes) : Finder := bufs.foldl Finder.findMacros f

/-- one call of `find_time_macros(visit)`: the buffers searched, then the new buffer state -/
def Finder.step (f : Finder) (visit : Bytes) : Finder :=
  if f.fullChunks = 0 then
    if visit.length ≤ maxHay then
      let psr := f.psr ++ visit
      { f.search [psr] with psr := psr }
    else
      let bufs := (if f.psr.isEmpty then [] else [f.psr ++ visit]) ++ [visit]
      { f.search bufs with left := lastN maxHay visit, fullChunks := f.fullChunks + 1, psr := [] }
  else
    if visit.length < maxHay then
      let psr := if f.psr.isEmpty then f.left ++ visit else f.psr ++ visit
      let right := padTo maxHay visit
      { f.search [psr, f.left ++ right] with psr := psr, right := right }
    else
      let left' := lastN maxHay visit
      let zeros := List.replicate maxHay (0 : UInt8)
      let bufs := [f.left ++ visit.take maxHay, left' ++ zeros]
                    ++ (if f.psr.isEmpty then [] else [f.psr ++ visit]) ++ [visit]
      { f.search bufs with left := left', right := zeros, fullChunks := f.fullChunks + 1, psr := [] }

def Finder.run (chunks : List Bytes) : Finder := chunks.foldl Finder.step {}

/-- C04 `finder_sound` as one closed proposition (`TM.finder_sound` in `Proofs/TimeMacro.lean` proves it per pattern, with the chunks as arguments) -/
def FinderSound : Prop :=
  ∀ (chunks : List Bytes), (∀ c ∈ chunks, c ≠ []) →
    (hasInfix patTime chunks.flatten = true → (Finder.run chunks).foundTime = true) ∧
    (hasInfix patDate chunks.flatten = true → (Finder.run chunks).foundDate = true) ∧
    (hasInfix patTimestamp chunks.flatten = true → (Finder.run chunks).foundTimestamp = true)

/-- exactness under the "only the last read is short" discipline -/
def FinderExactPartial : Prop :=
  ∀ (chunks : List Bytes) (last : Bytes), (∀ c ∈ chunks, maxHay ≤ c.length) →
    ((Finder.run (chunks ++ [last])).foundTime = hasInfix patTime (chunks.flatten ++ last))


end TM
