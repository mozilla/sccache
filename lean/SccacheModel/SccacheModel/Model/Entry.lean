import SccacheModel.Model.Crc

namespace EntryM

/-! Sketch (design round): byte-level writer of a cache entry as produced by `CacheWrite` through `zip 0.6.6`
    (method Stored, default options, seekable sink), and the reader's view. The codec (zstd) is a parameter:
    members carry the already-compressed frame. -/
abbrev Bytes := List UInt8

def le16 (n : Nat) : Bytes := [UInt8.ofNat (n % 256), UInt8.ofNat (n / 256 % 256)]
def le32 (n : Nat) : Bytes := [UInt8.ofNat (n % 256), UInt8.ofNat (n / 256 % 256), UInt8.ofNat (n / 65536 % 256), UInt8.ofNat (n / 16777216 % 256)]

/-- CRC-32 (IEEE, reflected, as `crc32fast`), on a `BitVec 32` register (`crcBV`, `Model/Crc.lean`) -/
def crc32 (data : Bytes) : Nat := (crcBV data).toNat

structure Member where
  name : Bytes            -- UTF-8 bytes of the object key ("obj", "stdout", …)
  mode : Option Nat       -- `Some(st_mode)` for files, `None` for stdout/stderr
  frame : Bytes           -- what `zstd::stream::copy_encode` produced
deriving Repr, DecidableEq

def isAscii (b : Bytes) : Bool := b.all (· < 128)
def flagOf (m : Member) : Nat := if isAscii m.name then 0 else 2048
def permsOf (m : Member) : Nat := (match m.mode with | some md => md % 512 | none => 420) + 32768   -- (mode & 0o777) | 0o100000
def dosTime : Bytes := [0, 0]
def dosDate : Bytes := [33, 0]                 -- 1980-01-01

def localHeader (m : Member) : Bytes :=
  [80, 75, 3, 4] ++ le16 20 ++ le16 (flagOf m) ++ le16 0 ++ dosTime ++ dosDate ++ le32 (crc32 m.frame)
    ++ le32 m.frame.length ++ le32 m.frame.length ++ le16 m.name.length ++ le16 0 ++ m.name

def centralHeader (m : Member) (offset : Nat) : Bytes :=
  [80, 75, 1, 2] ++ le16 (3 * 256 + 46) ++ le16 20 ++ le16 (flagOf m) ++ le16 0 ++ dosTime ++ dosDate
    ++ le32 (crc32 m.frame) ++ le32 m.frame.length ++ le32 m.frame.length ++ le16 m.name.length
    ++ le16 0 ++ le16 0 ++ le16 0 ++ le16 0 ++ le32 (permsOf m * 65536) ++ le32 offset ++ m.name

/-- local records with their offsets -/
def layout : Nat → List Member → List (Member × Nat)
  | _, [] => []
  | off, m :: ms => (m, off) :: layout (off + (localHeader m).length + m.frame.length) ms

def archive (ms : List Member) : Bytes :=
  let lay := layout 0 ms
  let locals := ms.flatMap fun m => localHeader m ++ m.frame
  let cd := lay.flatMap fun (m, off) => centralHeader m off
  locals ++ cd ++ [80, 75, 5, 6] ++ le16 0 ++ le16 0 ++ le16 ms.length ++ le16 ms.length
    ++ le32 cd.length ++ le32 locals.length ++ le16 0

/-- `CacheWrite::put_bytes` skips empty stdout/stderr -/
def entryMembers (objects : List Member) (stdout stderr : Option Member) : List Member :=
  objects ++ stdout.toList ++ stderr.toList

end EntryM
