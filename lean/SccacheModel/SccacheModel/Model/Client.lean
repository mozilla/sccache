namespace ClientM

/-! The client's reaction to what it reads from the server (C11),
    `commands.rs::handle_compile_response`. -/

inductive First where
  | compileStarted | unhandledCompile | unsupportedCompiler | otherResponse | ioError
deriving Repr, DecidableEq

inductive Second where
  | finished (retcode : Option Int) (signal : Option Int)
  | otherResponse
  | eof                -- `io::ErrorKind::UnexpectedEof` while reading the header or the body
  | otherError         -- reset, undecodable frame, …
deriving Repr, DecidableEq

inductive Action where
  | deliver (exit : Int)       -- print the server's stdout/stderr, exit with this status
  | localCompile               -- run the original command line locally and return its status
  | sccacheError               -- exit non-zero with an sccache error message
deriving Repr, DecidableEq

def clientDecide (ignoreIoErrors : Bool) (f : First) (s : Second) : Action :=
  match f with
  | .ioError | .otherResponse => .sccacheError
  | .unsupportedCompiler => .sccacheError
  | .unhandledCompile => .localCompile
  | .compileStarted =>
    match s with
    | .finished (some rc) _ => .deliver rc
    | .finished none (some _) => .deliver (-2)
    | .finished none none => .deliver (-3)
    | .otherResponse => .sccacheError
    | .eof => .localCompile
    | .otherError => if ignoreIoErrors then .localCompile else .sccacheError

end ClientM
