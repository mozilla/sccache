namespace ManifestM

/-! The manifest check of preprocessor-cache mode (C04),
    `PreprocessorCacheEntry::result_matches` as written on the pinned tree. -/

structure FileSt where
  content : Nat          -- identifies the bytes (their digest, collisions aside)
  size : Nat
  mtime : Nat
  ctime : Nat
  hasDate : Bool
  hasTime : Bool
  hasTimestamp : Bool
deriving Repr, DecidableEq

abbrev FS := Nat → Option FileSt

structure Inc where
  path : Nat
  digest : Nat
  size : Nat
  mtime : Option Nat     -- recorded only when the compile started strictly after max(mtime, ctime)
  ctime : Option Nat
deriving Repr, DecidableEq

structure Cfg where
  fileStatMatches : Bool
  useCtimeForStat : Bool
  ignoreTimeMacros : Bool
deriving Repr, DecidableEq

def statHit (cfg : Cfg) (f : FileSt) (inc : Inc) : Bool :=
  cfg.fileStatMatches &&
    match inc.mtime, inc.ctime with
    | some m, some c => cfg.useCtimeForStat && f.mtime == m && f.ctime == c
    | some m, none => f.mtime == m
    | _, _ => false

/-- `result_matches` after the fixes of F-C04-a (with `ignore_time_macros` every include is compared) and F-C04-b (contents are compared
    whether or not the file mentions a time macro; `__TIME__` and `__DATE__` never hit; `__TIMESTAMP__` hits only at the recorded mtime) -/
def resultMatches (cfg : Cfg) (fs : FS) : List Inc → Bool
  | [] => true
  | inc :: rest =>
    match fs inc.path with
    | none => false
    | some f =>
      if f.size != inc.size then false
      else if statHit cfg f inc then resultMatches cfg fs rest
      else if cfg.ignoreTimeMacros then inc.digest == f.content && resultMatches cfg fs rest
      else
        if inc.digest != f.content then false
        else if f.hasTime then false
        else if f.hasDate then false
        else if f.hasTimestamp && inc.mtime != some f.mtime then false
        else resultMatches cfg fs rest

/-- the same function before the fix of F-C04-b: no comparison at all for a file that mentions a time macro -/
def resultMatchesBefore (cfg : Cfg) (fs : FS) : List Inc → Bool
  | [] => true
  | inc :: rest =>
    match fs inc.path with
    | none => false
    | some f =>
      if f.size != inc.size then false
      else if statHit cfg f inc then resultMatchesBefore cfg fs rest
      else if cfg.ignoreTimeMacros then inc.digest == f.content && resultMatchesBefore cfg fs rest
      else
        let anyTM := f.hasDate || f.hasTime || f.hasTimestamp
        if !anyTM && inc.digest != f.content then false
        else if f.hasTime then false
        else resultMatchesBefore cfg fs rest

/-- what `add_result` records for a file (at compile start `t0`) -/
def record (t0 : Nat) (path : Nat) (f : FileSt) : Inc :=
  let ok := decide (t0 > max f.mtime f.ctime)
  { path := path, digest := f.content, size := f.size,
    mtime := if ok then some f.mtime else none, ctime := if ok then some f.ctime else none }

/-- every file that differs from its state at recording time was (re)written at or after `t0`:
    the kernel sets ctime from a monotone clock on every change -/
def EvolvedSince (t0 : Nat) (fs0 fs1 : FS) : Prop :=
  ∀ p f1, fs1 p = some f1 → fs0 p = some f1 ∨ t0 ≤ f1.ctime

def NoTimeMacros (fs : FS) (incs : List Inc) : Prop :=
  ∀ inc ∈ incs, ∀ f, fs inc.path = some f → f.hasDate = false ∧ f.hasTime = false ∧ f.hasTimestamp = false

/-- no header holds time-macro text, or time macros are ignored by configuration (then contents are always compared) -/
def TimeMacroFree (cfg : Cfg) (fs : FS) (incs : List Inc) : Prop :=
  cfg.ignoreTimeMacros = true ∨ NoTimeMacros fs incs

end ManifestM
