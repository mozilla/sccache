namespace L1

/-! The L1 decision functions (DESIGN.md, Appendix D), for C01/C03/C09/C15. -/

inductive HashRes where | processError | otherError | ok
deriving Repr, DecidableEq
inductive Control where | default | forceRecache | forceNoCache
deriving Repr, DecidableEq
inductive Lookup where | hit | miss | err | timeout
deriving Repr, DecidableEq
inductive Extract where | ok | decompressionFailure | otherErr
deriving Repr, DecidableEq
/-- `failure`: the local compiler exited non-zero — `run_input_output` turns that into `Err(ProcessError o)`,
    which leaves `get_cached_or_compile` through `?` and is mapped back to the compiler's own status and output
    by `start_compile_task`; `failureDist`: a distributed compile returned a non-zero status —
    `Ok(CompileFailed, o)`. Both give the same reply; they differ only in the counters (B.6). -/
inductive Compile where | spawnErr | success | failure | failureDist
deriving Repr, DecidableEq

structure In where
  hash : HashRes
  control : Control
  lookup : Lookup
  extract : Extract
  compile : Compile
  cacheable : Bool
  pack : Bool            -- zipping the outputs succeeded
  storeOk : Bool         -- the store future succeeded (read-only / full / broken cache ⇒ false)
deriving Repr, DecidableEq

inductive Reply where
  | preprocessorFailed       -- the compiler's own (preprocessor) status and stderr
  | cachedResult             -- status 0, stored stdout/stderr, outputs restored from the entry
  | compilerResult (ok : Bool) -- the local/distributed compiler's own status, stdout, stderr, outputs
  | fatal                    -- retcode −2 "sccache: encountered fatal error"
deriving Repr, DecidableEq

structure Out where
  reply : Reply
  ranCompiler : Bool
  storeIssued : Bool
deriving Repr, DecidableEq

def needCompile (i : In) : Bool :=
  match i.control with
  | .forceNoCache | .forceRecache => true
  | .default =>
    match i.lookup with
    | .hit => i.extract == .decompressionFailure
    | _ => true

def decide1 (i : In) : Out :=
  match i.hash with
  | .processError => ⟨.preprocessorFailed, false, false⟩
  | .otherError => ⟨.fatal, false, false⟩
  | .ok =>
    if i.control == .default && i.lookup == .hit && i.extract == .ok then ⟨.cachedResult, false, false⟩
    else if i.control == .default && i.lookup == .hit && i.extract == .otherErr then ⟨.fatal, false, false⟩
    else
      match i.compile with
      | .spawnErr => ⟨.fatal, true, false⟩
      | .failure => ⟨.compilerResult false, true, false⟩
      | .failureDist => ⟨.compilerResult false, true, false⟩
      | .success =>
        if i.control == .forceNoCache then ⟨.compilerResult true, true, false⟩
        else if !i.cacheable then ⟨.compilerResult true, true, false⟩
        else if !i.pack then ⟨.fatal, true, false⟩
        else ⟨.compilerResult true, true, true⟩

/-! Preprocessor-cache section of `generate_hash_key` (Appendix D.2) -/

inductive PEntry where | absent | emptyFile | valid (hit : Bool) (updated : Bool) | undecodable | readError
deriving Repr, DecidableEq

inductive HashStep where
  | directHit          -- recorded result key returned without running the preprocessor
  | preprocess         -- run the preprocessor and hash its output
  | propagateError     -- `?` leaves `generate_hash_key` with a non-process error ⇒ `fatal`
deriving Repr, DecidableEq

/-- pinned behaviour -/
def ppSectionPinned (usePP : Bool) (controlDefault : Bool) (e : PEntry) (updatePutOk : Bool) : HashStep :=
  if !(usePP && controlDefault) then .preprocess else
  match e with
  | .absent | .emptyFile => .preprocess
  | .undecodable | .readError => .propagateError
  | .valid hit updated => if updated && !updatePutOk then .preprocess else if hit then .directHit else .preprocess

/-- after the fix (treat as absent) no state of the preprocessor-cache file can make a request fatal -/
def ppSectionFixed (usePP controlDefault : Bool) (e : PEntry) (updatePutOk : Bool) : HashStep :=
  match e with
  | .undecodable | .readError => ppSectionPinned usePP controlDefault .absent updatePutOk
  | e => ppSectionPinned usePP controlDefault e updatePutOk

end L1
