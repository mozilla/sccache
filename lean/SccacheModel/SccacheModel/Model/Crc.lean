namespace EntryM

/-! CRC-32 (IEEE, reflected) on a `BitVec 32` register, one bit at a time (what `crc32fast` computes for the zip writer). -/
def P : BitVec 32 := 0xEDB88320#32

def bstep (c : BitVec 32) : BitVec 32 := (c >>> 1) ^^^ (if c.getLsbD 0 then P else 0#32)

def step8 (c : BitVec 32) : BitVec 32 := bstep (bstep (bstep (bstep (bstep (bstep (bstep (bstep c)))))))

def byteBV (b : UInt8) : BitVec 32 := BitVec.ofNat 32 b.toNat

/-- one byte of CRC-32 update, on the register -/
def crcUpd (s : BitVec 32) (b : UInt8) : BitVec 32 := step8 (s ^^^ byteBV b)

def crcBV (xs : List UInt8) : BitVec 32 := (xs.foldl crcUpd 0xFFFFFFFF#32) ^^^ 0xFFFFFFFF#32

end EntryM
