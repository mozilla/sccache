import SccacheModel.Gen.StatsTable

namespace StatsM

/-! Server statistics as a fold of counter increments (C14). `incsOfOutcome` / `incsOfRequest` are regenerated from
    `check_compiler` / `start_compile_task` (src/server.rs) on every run (Gen/StatsTable.lean). -/

abbrev Stats := Counter → Nat

def bump (s : Stats) (c : Counter) : Stats := fun x => if x = c then s x + 1 else s x

def statsOf (incs : List Counter) : Stats := incs.foldl bump (fun _ => 0)

/-- the quiescent history: every request has run to completion -/
def history (reqs : List Disp) : List Counter := reqs.flatMap incsOfRequest

def cnt (reqs : List Disp) (c : Counter) : Nat := statsOf (history reqs) c

end StatsM
