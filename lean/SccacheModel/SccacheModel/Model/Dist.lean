namespace DistM

/-! Distributed-or-local decision and the exit-status mapping (C13). -/

/-- Unix wait status as `ExitStatus::from_raw` interprets it -/
def codeOfRaw (raw : Nat) : Option Nat := if raw % 128 = 0 then some (raw / 256 % 256) else none
def signalOfRaw (raw : Nat) : Option Nat := if raw % 128 = 0 then none else some (raw % 128)

/-- `dist::exit_status(code)` on the pinned tree: the remote exit code is used as a raw wait status -/
def ofRemotePinned (code : Nat) : Nat := code
/-- what a correct mapping does -/
def ofRemoteFixed (code : Nat) : Nat := code % 256 * 256

inductive ErrClass where | http4xx | toolchainTooLarge | other
deriving Repr, DecidableEq

inductive Stage where | putToolchain | alloc | submit | run | writeOutput (j : Nat) | rewrite
deriving Repr, DecidableEq

inductive DistResult where
  | remote            -- the remote result, mapped back
  | local_            -- the local compiler's result (after the warning)
  | error             -- reported as an sccache error
deriving Repr, DecidableEq

/-- `dist_or_local_compile`: no dist command or no client ⇒ local; otherwise the first failing stage decides -/
def distDecide (hasDistCmd hasClient : Bool) (failure : Option (Stage × ErrClass)) : DistResult :=
  if !(hasDistCmd && hasClient) then .local_ else
  match failure with
  | none => .remote
  | some (_, .http4xx) => .error
  | some (_, .toolchainTooLarge) => .error
  | some (_, .other) => .local_

/-- outputs left on disk after a failure at stage `st` when `k` outputs were expected: `try_or_cleanup`
    removes everything written so far -/
def leftovers (written : List Nat) (cleanup : Bool) : List Nat := if cleanup then [] else written

end DistM
