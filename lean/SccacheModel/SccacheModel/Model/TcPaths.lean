import SccacheModel.Model.Paths

namespace PathsM

/-! Paths built from client-supplied toolchain identifiers: the file the toolchain cache uses (`dist/cache.rs`) and the directory the
    overlay builder unpacks into (`bin/sccache-dist/build.rs`). -/

def isHexByte (b : UInt8) : Bool := (48 ≤ b && b ≤ 57) || (97 ≤ b && b ≤ 102) || (65 ≤ b && b ≤ 70)

/-- `valid_archive_id` (`dist/cache.rs`, fix 718dc21): at least two bytes, all ASCII hex digits -/
def validId (id : Bytes) : Bool := 2 ≤ id.length && id.all isHexByte

/-- `make_lru_key_path(id)` below the cache root, as text: `root/<id[0]>/<id[1]>/<id>` -/
def keyPath (root id : Bytes) : Bytes := root ++ [slash] ++ id.take 1 ++ [slash] ++ (id.drop 1).take 1 ++ [slash] ++ id

/-- the name of the directory below the builder directory that holds the unpacked toolchains: `"toolchains"` -/
def tcDirName : Bytes := [116, 111, 111, 108, 99, 104, 97, 105, 110, 115]

/-- `OverlayBuilder::prepare_overlay_dirs` after fix aa1c43e: `<builder>/toolchains/<id>` is created only after the toolchain cache
    has returned the archive of `id` — which it does only for ids `valid_archive_id` accepts (`TcCache::get`) -/
def overlayDir (builder id : Bytes) (inCache : Bool) : Option Bytes :=
  if validId id && inCache then some (builder ++ [slash] ++ tcDirName ++ [slash] ++ id) else none

/-- … before the fix the directory was created first, from whatever identifier the client sent (`Path::join` twice) -/
def overlayDirBefore (builder id : Bytes) : Bytes := pjoin (pjoin builder tcDirName) id

end PathsM
