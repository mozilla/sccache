namespace TokensM

/-! The job-token pool of `jobserver::Client` / `AsyncCommand::spawn` (C16). -/

structure Waiter where
  id : Nat
  cancelled : Bool
deriving Repr, DecidableEq

structure Pool where
  n : Nat                     -- tokens created at server start (`num_cpus`)
  avail : Nat                 -- tokens in the pipe
  next : Nat                  -- fresh request ids
  queue : List Waiter         -- oneshot senders queued for the helper thread, FIFO
  holding : List Nat          -- requests that own an `Acquired` (before spawn or while the child runs)
  running : List Nat          -- requests whose child process is alive
deriving Repr, DecidableEq

inductive TAct where
  | request                   -- `acquire()`: request_token + queue the sender (gets id `next`)
  | cancel (id : Nat)         -- the waiting future is dropped (client went away)
  | grant                     -- helper thread got a token from the pipe and hands it to the queue head
  | spawnOk (id : Nat)        -- `Command::spawn` succeeded: the Child keeps the token
  | spawnErr (id : Nat)       -- spawn failed: `?` drops the token
  | exit (id : Nat)           -- `wait`/`wait_with_output` returned: token dropped
deriving Repr, DecidableEq

def Pool.init (n : Nat) : Pool := { n := n, avail := n, next := 0, queue := [], holding := [], running := [] }

def tstep (p : Pool) : TAct → Pool
  | .request => { p with queue := p.queue ++ [⟨p.next, false⟩], next := p.next + 1 }
  | .cancel id => { p with queue := p.queue.map fun w => if w.id == id then { w with cancelled := true } else w }
  | .grant =>
    match p.queue with
    | [] => p
    | w :: rest =>
      if p.avail = 0 then p
      else if w.cancelled then { p with queue := rest }                         -- send fails, token goes straight back
      else { p with queue := rest, avail := p.avail - 1, holding := w.id :: p.holding }
  | .spawnOk id => if id ∈ p.holding ∧ id ∉ p.running then { p with running := id :: p.running } else p
  | .spawnErr id =>
    if id ∈ p.holding ∧ id ∉ p.running then { p with holding := p.holding.erase id, avail := p.avail + 1 } else p
  | .exit id =>
    if id ∈ p.running ∧ id ∈ p.holding then
      { p with running := p.running.erase id, holding := p.holding.erase id, avail := p.avail + 1 } else p

def trun (p : Pool) (as : List TAct) : Pool := as.foldl tstep p

end TokensM
