namespace MemoM

/-! The per-path compiler memo of `SccacheService::compiler_info` (C12). -/

structure Bin where
  content : Nat      -- identifies the bytes of the executable (its digest, collisions aside)
  mtime : Nat
deriving Repr, DecidableEq

structure MemoEntry where
  digest : Nat
  mtime : Nat
deriving Repr, DecidableEq

/-- one request for the compiler at a path whose file currently is `b`: reuse iff the mtime matches -/
def lookup (memo : Option MemoEntry) (b : Bin) : MemoEntry × Nat :=
  match memo with
  | some e => if e.mtime = b.mtime then (e, e.digest) else (⟨b.content, b.mtime⟩, b.content)
  | none => (⟨b.content, b.mtime⟩, b.content)

/-- a history: the file at the path at each successive request -/
def digestsUsed : Option MemoEntry → List Bin → List Nat
  | _, [] => []
  | m, b :: bs => let (m', d) := lookup m b; d :: digestsUsed (some m') bs

/-- the statement's hypothesis made precise: at this path, equal mtime means equal contents -/
def MtimeDeterminesContent (bs : List Bin) : Prop := ∀ a ∈ bs, ∀ b ∈ bs, a.mtime = b.mtime → a.content = b.content

/-! ### which entry of the compiler map a request uses (`compiler_info`)

The map is keyed by a path: the canonical (symlink-free) path of the requested executable **if** that has the same file name, the
requested path otherwise ("don't canonicalize if the file name differs so it works with clang's multicall"). A driver decides by
its *name* what it is (`gcc` / `g++`, `clang` / `clang++`), so two names must never share an entry. -/

/-- the facts about one requested path that the rule looks at; paths are identified by numbers, `nameOf` gives the file name of a path -/
structure Req where
  self : Nat            -- the requested path
  canon : Nat           -- its canonical path (`canonicalize()`)
deriving Repr, DecidableEq

/-- the key of the compiler map for a request -/
def memoKey (nameOf : Nat → Nat) (r : Req) : Nat :=
  if nameOf r.canon = nameOf r.self then r.canon else r.self

end MemoM
