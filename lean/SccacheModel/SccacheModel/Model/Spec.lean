namespace L0

/-! L0 — the abstract cache: requests with lookup and store faults, evictions, corruptions and restarts over a map from
    fingerprints to results, and the predicates in which C01 transparency, C03 repeat hits, C09 fault tolerance and
    C15 read-only are stated. -/

/-- what the compiler produces for a request; `ok = false` is a failed compile -/
structure Result where
  ok : Bool
  artefacts : Nat      -- identifies exit status, stdout, stderr and every output file's bytes and mode
deriving Repr, DecidableEq

/-- assumption A1 packaged: the direct compiler's result is a function of the fingerprint, i.e. of the
    components that C02 shows the key to determine (and to be determined by) -/
abbrev CC := Nat → Result

abbrev Cache := Nat → Option Result

inductive Ev where
  | request (fp : Nat) (lookupFault storeFault : Bool)   -- faults: lookup error / time-out / undecodable entry; failing or refused store
  | evict (fp : Nat)
  | corrupt (fp : Nat)      -- the entry is damaged on disk: it can no longer be decoded (C08) and acts as a miss
  | restart                 -- server stops and starts again: the disk cache persists
deriving Repr, DecidableEq

structure Obs where
  reply : Result
  ranCompiler : Bool
deriving Repr, DecidableEq

def upd (c : Cache) (k : Nat) (v : Option Result) : Cache := fun x => if x = k then v else c x

def estep (cc : CC) (c : Cache) : Ev → Cache × Option Obs
  | .request fp lf sf =>
    match (if lf then none else c fp) with
    | some r => (c, some ⟨r, false⟩)
    | none =>
      let r := cc fp
      (if r.ok && !sf then upd c fp (some r) else c, some ⟨r, true⟩)
  | .evict fp => (upd c fp none, none)
  | .corrupt fp => (upd c fp none, none)
  | .restart => (c, none)

def erun (cc : CC) (c : Cache) : List Ev → Cache
  | [] => c
  | e :: es => erun cc (estep cc c e).1 es

def Sound (cc : CC) (c : Cache) : Prop := ∀ k r, c k = some r → r = cc k ∧ r.ok = true

/-- events that leave the entry of `fp` alone -/
def Keeps (fp : Nat) : Ev → Prop
  | .evict k => k ≠ fp
  | .corrupt k => k ≠ fp
  | _ => True

end L0
