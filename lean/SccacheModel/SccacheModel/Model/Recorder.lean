namespace RecM

/-! The include recorder of preprocessor-cache mode (C04, second tier): a transcription of
    `process_preprocessed_file`, `process_preprocessor_line` and `remember_include_file` (`src/compiler/c.rs`), at the
    level of *which files get recorded and whether direct mode stays enabled* (the text digest it also computes is
    dropped by the caller and is not modelled).  Bytes of the preprocessor output in, verdict + recorded paths out.
    The file system is a parameter.  Loops take fuel = remaining length. -/

abbrev Bytes := List UInt8

def bQuote : UInt8 := 34
def bNl : UInt8 := 10
def bHash : UInt8 := 35
def bSp : UInt8 := 32
def bSlash : UInt8 := 47
def bDot : UInt8 := 46
def b3 : UInt8 := 51

def sb (s : List Nat) : Bytes := s.map UInt8.ofNat

/-- "pragma GCC pch_preprocess" -/
def pragmaPch : Bytes := sb [112, 114, 97, 103, 109, 97, 32, 71, 67, 67, 32, 112, 99, 104, 95, 112, 114, 101, 112, 114, 111, 99, 101, 115, 115]
/-- "# 31 \"<command-line>\"\n" -/
def hash31 : Bytes := sb [35, 32, 51, 49, 32, 34, 60, 99, 111, 109, 109, 97, 110, 100, 45, 108, 105, 110, 101, 62, 34, 10]
/-- "# 32 \"<command-line>\" 2\n" -/
def hash32 : Bytes := sb [35, 32, 51, 50, 32, 34, 60, 99, 111, 109, 109, 97, 110, 100, 45, 108, 105, 110, 101, 62, 34, 32, 50, 10]
/-- ".incbin" -/
def incbin : Bytes := sb [46, 105, 110, 99, 98, 105, 110]
/-- eleven underscores (distcc-pump banner) -/
def underscores : Bytes := List.replicate 11 95

inductive FileKind where
  | missing | dir | other
  | file (tooNew openFails hasTime : Bool)
deriving Repr, DecidableEq

structure Cfg where
  skipSystemHeaders : Bool
  ignoreTimeMacros : Bool
deriving Repr, DecidableEq

/-! ### paths: Rust `Path::components`, `normalize_path`, `cwd.join`, `PathBuf` equality (= equality of components) -/

def splitSlash (s : Bytes) : List Bytes :=
  s.foldr (fun b acc => if b == bSlash then [] :: acc else match acc with | [] => [[b]] | x :: xs => (b :: x) :: xs) [[]]

def isAbs (p : Bytes) : Bool := p.head? == some bSlash
def dotdot : Bytes := [bDot, bDot]

/-- `Path::components` without the root: empty pieces and `.` are dropped, except a leading `.` of a relative path (`CurDir`) -/
def rustComps (p : Bytes) : List Bytes :=
  let cs := (splitSlash p).filter (fun c => !c.isEmpty)
  match isAbs p, cs with
  | false, c :: rest => if c == [bDot] then c :: rest.filter (· != [bDot]) else c :: rest.filter (· != [bDot])
  | _, cs => cs.filter (· != [bDot])

/-- one step of `normalize_path` **after the fix of F-C04-c**: a `..` with nothing to cancel is kept in a relative path -/
def normStep (abs : Bool) (st : List Bytes) (c : Bytes) : List Bytes :=
  if c == [bDot] then st
  else if c == dotdot then
    if st.getLast? == some dotdot then st ++ [c]
    else if st.isEmpty then (if abs then st else st ++ [c])
    else st.dropLast
  else st ++ [c]

/-- the pinned step: `ret.pop()` on an empty path is a no-op, so a leading `..` vanished (F-C04-c) -/
def normStepPinned (_abs : Bool) (st : List Bytes) (c : Bytes) : List Bytes :=
  if c == [bDot] then st else if c == dotdot then st.dropLast else st ++ [c]

def normCompsWith (step : Bool → List Bytes → Bytes → List Bytes) (p : Bytes) : List Bytes :=
  (rustComps p).foldl (step (isAbs p)) []
def normComps (p : Bytes) : List Bytes := normCompsWith normStep p

/-- canonical text of a path given as (absolute?, components) -/
def render (abs : Bool) (cs : List Bytes) : Bytes :=
  (if abs then [bSlash] else []) ++ (match cs with | [] => [] | c :: rest => rest.foldl (fun acc x => acc ++ [bSlash] ++ x) c)

/-- the include path as it reaches `remember_include_file`: `normalized == path_buf` (components) keeps the raw spelling,
    otherwise the normalised path is re-encoded -/
def normalizedTextWith (step : Bool → List Bytes → Bytes → List Bytes) (raw : Bytes) : Bytes :=
  let n := normCompsWith step raw
  if rustComps raw == n then raw else render (isAbs raw) n
def normalizedText (raw : Bytes) : Bytes := normalizedTextWith normStep raw

/-- "Canonicalize path for comparison; Clang uses ./header.h" -/
def stripDot (path : Bytes) : Bytes := if path.take 2 == [bDot, bSlash] then path.drop 2 else path

/-- the `PathBuf` that `remember_include_file` keys on, as its list of components below the root: `cwd.join(path)` for a
    relative path (a `.` is no longer leading there, so it is dropped); `..` components are *not* resolved here -/
def keyComps (cwd path : Bytes) : List Bytes :=
  if isAbs path then rustComps path else rustComps cwd ++ (rustComps path).filter (· != [bDot])

def fullPath (cwd path : Bytes) : Bytes := render true (keyComps cwd path)

/-! ### the file system: a finite world of directories and files without directory symlinks; `stat` resolves `..` physically -/

def kindOf (world : List (List Bytes × FileKind)) (cs : List Bytes) : FileKind :=
  match world.find? (fun e => e.1 == cs) with
  | some e => e.2
  | none => .missing

/-- `cur`: an existing directory (components below `/`); remaining components to walk -/
def resolve (world : List (List Bytes × FileKind)) : List Bytes → List Bytes → FileKind
  | _, [] => .dir
  | cur, c :: rest =>
    if c == dotdot then resolve world cur.dropLast rest
    else match kindOf world (cur ++ [c]) with
      | .dir => resolve world (cur ++ [c]) rest
      | k => if rest.isEmpty then k else .missing      -- ENOTDIR / ENOENT below something that is no directory

inductive Remember where
  | ok (record : Option Bytes)   -- keep going; `some p`: p is recorded
  | disable                      -- "too new", unreadable, `__TIME__`, …: direct mode is switched off for this compile
deriving Repr, DecidableEq

/-- `remember_include_file` -/
def remember (cfg : Cfg) (fs : Bytes → FileKind) (cwd input : Bytes) (known : List Bytes) (path : Bytes) (system : Bool) : Remember :=
  if path.length ≥ 2 && path.head? == some 60 && path.getLast? == some 62 then .ok none          -- <built-in>, <command-line>
  else if system && cfg.skipSystemHeaders then .ok none
  else
    let full := fullPath cwd (stripDot path)
    if known.contains full then .ok none
    else if full == fullPath cwd input then .ok none
    else match fs full with
      | .missing => .disable
      | .dir => .ok none
      | .other => .disable
      | .file tooNew openFails hasTime =>
        -- `<cwd>/a.h/`: the trailing slash survives `cwd.join`, and stat of a regular file through it fails (ENOTDIR)
        if (stripDot path).getLast? == some bSlash then .disable
        else if tooNew then .disable
        else if openFails then .disable
        else if hasTime && !cfg.ignoreTimeMacros then .disable
        else .ok (some full)

/-! ### the scanner -/

def startsAt (bytes : Bytes) (i : Nat) (pat : Bytes) : Bool := pat.isPrefixOf (bytes.drop i)
def at' (bytes : Bytes) (i : Nat) : UInt8 := bytes.getD i 0

/-- advance `start` while `start < total ∧ bytes[start] ∉ stop` -/
def skipUntil (bytes : Bytes) (stop : List UInt8) : Nat → Nat → Nat
  | 0, start => start
  | fuel + 1, start => if start < bytes.length && !(stop.contains (at' bytes start)) then skipUntil bytes stop fuel (start + 1) else start

/-- any `3` between `from` and the end of the line -/
def flag3 (bytes : Bytes) : Nat → Nat → Bool
  | 0, _ => false
  | fuel + 1, p => if p < bytes.length && at' bytes p != bNl then (at' bytes p == b3) || flag3 bytes fuel (p + 1) else false

inductive LineRes where
  | cont (start hashStart : Nat) (bytes : Bytes) (known : List Bytes)            -- ControlFlow::Continue
  | brk (start hashStart : Nat) (keep : Bool) (bytes : Bytes) (known : List Bytes) -- ControlFlow::Break
  | err
deriving Repr

/-- `process_preprocessor_line` -/
def processLine (cfg : Cfg) (fs : Bytes → FileKind) (cwd input : Bytes) (bytes : Bytes) (known : List Bytes) (start0 hashStart0 : Nat) : LineRes :=
  let total := bytes.length
  -- GCC 6 workarounds
  let is3 := (bytes.drop start0)[2]? == some b3
  if is3 && startsAt bytes start0 hash31 then
    -- `while start < hash_start && slice[0] != '\n' { start += 1 }` : slice is not re-sliced, so this only catches up to hash_start
    let s1 := if start0 < hashStart0 then hashStart0 else start0
    .brk (s1 + 1) (s1 + 1) true bytes known
  else
    let (bytes, start1, hashStart1) :=
      if is3 && startsAt bytes start0 hash32 then
        let s := start0 + 1
        (((bytes.set s bHash).set (s + 1) bSp).set (s + 2) 49, s, s)
      else (bytes, start0, hashStart0)
    let start2 := skipUntil bytes [bQuote, bNl] (total + 1) start1
    if start2 < total && at' bytes start2 == bNl then .brk start2 hashStart1 true bytes known
    else
      let start3 := start2 + 1
      if start3 ≥ total then .err
      else
        let hashStart2 := start3
        let start4 := skipUntil bytes [bQuote] (total + 1) start3
        if start4 == hashStart2 then .brk start4 hashStart2 true bytes known
        else
          let system := flag3 bytes (total + 1) (start4 + 1)
          let raw := (bytes.drop hashStart2).take (start4 - hashStart2)
          match remember cfg fs cwd input known (normalizedText raw) system with
          | .disable => .brk start4 hashStart2 false bytes known
          | .ok none => .cont start4 start4 bytes known
          | .ok (some p) => .cont start4 start4 bytes (known ++ [p])

inductive Res where
  | err
  | panic      -- index out of bounds in the real code (the distcc-pump banner as unterminated last line)
  | ok (keep : Bool) (recorded : List Bytes)
deriving Repr, DecidableEq

def isDigit (b : UInt8) : Bool := 48 ≤ b && b ≤ 57

/-- is this position a line-marker line as the scanner sees it? (`&slice[1..5] == b"line "` compares 4 bytes with 5: never true) -/
def isMarker (bytes : Bytes) (start : Nat) : Bool :=
  at' bytes start == bHash
    && ((at' bytes (start + 1) == bSp && isDigit (at' bytes (start + 2))) || startsAt bytes (start + 1) pragmaPch)
    && (start == 0 || at' bytes (start - 1) == bNl)

def isIncbin (bytes : Bytes) (start : Nat) : Bool :=
  startsAt bytes start incbin &&
    (let r := bytes.drop (start + 7)
     [bQuote].isPrefixOf r || [bSp, bQuote].isPrefixOf r || [bSp, 92, bQuote].isPrefixOf r)

/-- `process_preprocessed_file`: main loop with fuel -/
def scan (cfg : Cfg) (fs : Bytes → FileKind) (cwd input : Bytes) : Nat → Bytes → List Bytes → Nat → Nat → Res
  | 0, _, known, _, _ => .ok true known
  | fuel + 1, bytes, known, start, hashStart =>
    let total := bytes.length
    if !(start < total - 7) then .ok true known
    else if isMarker bytes start then
      match processLine cfg fs cwd input bytes known start hashStart with
      | .err => .err
      | .cont s h b k => scan cfg fs cwd input fuel b k s h
      | .brk s h keep b k => if !keep then .ok false k else scan cfg fs cwd input fuel b k s h
    else if isIncbin bytes start then .ok false known
    else if startsAt bytes start underscores && (start == 0 || at' bytes (start - 1) == bNl) then
      let s1 := skipUntil bytes [bNl] (total + 1) start
      -- `slice = &bytes[start..]; if slice[0] == b'\n'` panics when the banner is the unterminated last line
      if s1 ≥ total then .panic
      else scan cfg fs cwd input fuel bytes known (s1 + 1) (s1 + 1)
    else scan cfg fs cwd input fuel bytes known (start + 1) hashStart

def processPreprocessedFile (cfg : Cfg) (fs : Bytes → FileKind) (cwd input bytes : Bytes) : Res :=
  scan cfg fs cwd input (2 * bytes.length + 2) bytes [] 0 0

/-- the world-based instance used by the correspondence driver -/
def fsOf (world : List (List Bytes × FileKind)) (full : Bytes) : FileKind := resolve world [] (rustComps full)

end RecM
