namespace SchedM

/-! Executable model of the sccache-dist `Scheduler` (as written), time frozen. -/

inductive JState where | pending | ready | started | complete
deriving Repr, DecidableEq

structure Srv where
  id : Nat
  assigned : List Nat := []
  unclaimed : List Nat := []
  cpus : Nat
  nonce : Nat
  lastErr : Option Nat := none       -- logical time of the last failed assignment
deriving Repr, DecidableEq

structure Job where
  id : Nat
  server : Nat
  state : JState
deriving Repr, DecidableEq

structure Sched where
  jobCount : Nat := 0
  jobs : List Job := []
  servers : List Srv := []
  clock : Nat := 0
  poisoned : Bool := false
deriving Repr, DecidableEq

inductive SRes where
  | ok | err | panic | fail            -- `fail` = AllocJobResult::Fail (no capacity)
deriving Repr, DecidableEq

namespace Sched

def capOf (cpus : Nat) : Nat := cpus + 1 + cpus / 8

/-- `load_weight < MAX_PER_CORE_LOAD` in exact arithmetic -/
def loadOk (s : Srv) : Bool := s.assigned.length < capOf s.cpus && s.assigned.length < 2 * s.cpus

/-- `load a < load b` for two servers that are both below their slack limit -/
def loadLt (a b : Srv) : Bool := a.assigned.length * b.cpus < b.assigned.length * a.cpus

def findSrv (c : Sched) (s : Nat) : Option Srv := c.servers.find? (·.id == s)
def setSrv (c : Sched) (v : Srv) : Sched :=
  { c with servers := (c.servers.filter (·.id != v.id)) ++ [v] }

/-- the servers `handle_alloc_job` may pick, whatever the hash-map iteration order -/
def admissible (c : Sched) : List Nat :=
  let ne := c.servers.filter fun s => s.lastErr.isNone && loadOk s
  if !ne.isEmpty then
    (ne.filter fun s => ne.all fun t => !loadLt t s).map (·.id)
  else
    let er := c.servers.filter fun s => s.lastErr.isSome && loadOk s
    (er.filter fun s => er.all fun t => (t.lastErr.getD 0) ≥ (s.lastErr.getD 0)).map (·.id)

/-- first locked section of `handle_alloc_job`; `choice` is what the implementation picked -/
def allocChoose (c : Sched) (choice : Option Nat) : Sched × SRes × Option Nat :=
  match choice with
  | none => if c.admissible.isEmpty then (c, .fail, none) else (c, .err, none)   -- model rejects the trace
  | some s =>
    if !c.admissible.contains s then (c, .err, none) else
    match c.findSrv s with
    | none => (c, .err, none)
    | some v =>
      if !loadOk v then (c, .err, none) else       -- implied by admissibility; stated for the proofs
      let j := c.jobCount
      let v' := { v with assigned := v.assigned ++ [j], unclaimed := v.unclaimed ++ [j] }
      (({ c with jobCount := j + 1 }).setSrv v', .ok, some j)

/-- third step of `handle_alloc_job` after the fix of F-C18-a (under both locks): record the job only if the
    chosen server still lists it and the id is fresh; otherwise the allocation fails and nothing changes -/
def allocRecordFixed (c : Sched) (j s : Nat) (st : JState) : Sched × SRes :=
  match c.findSrv s with
  | some v => if v.assigned.contains j && !c.jobs.any (·.id == j) then ({ c with jobs := c.jobs ++ [⟨j, s, st⟩] }, .ok) else (c, .err)
  | none => (c, .err)

/-- the third step as it was on the pinned tree (kept for the witness of F-C18-a) -/
def allocRecord (c : Sched) (j s : Nat) (st : JState) : Sched × SRes :=
  if c.jobs.any (·.id == j) then ({ c with poisoned := true }, .panic)
  else ({ c with jobs := c.jobs ++ [⟨j, s, st⟩] }, .ok)

/-- `do_assign_job` failed: un-assign -/
def allocFail (c : Sched) (j s : Nat) : Sched × SRes :=
  let c1 := { c with clock := c.clock + 1 }
  match c1.findSrv s with
  | none => (c1, .err)
  | some v => (c1.setSrv { v with lastErr := some c1.clock, unclaimed := v.unclaimed.erase j,
                                  assigned := v.assigned.erase j }, .err)

def heartbeat (c : Sched) (s nonce cpus : Nat) : Sched × SRes × Bool :=
  if cpus = 0 then (c, .err, false) else
  match c.findSrv s with
  | some v =>
    if v.nonce == nonce then (c, .ok, false)
    else
      let c1 := { c with jobs := c.jobs.filter fun j => !v.assigned.contains j.id }
      (c1.setSrv { id := s, cpus := cpus, nonce := nonce }, .ok, true)
  | none => (c.setSrv { id := s, cpus := cpus, nonce := nonce }, .ok, true)

def update (c : Sched) (j s : Nat) (st : JState) : Sched × SRes :=
  match c.jobs.find? (·.id == j) with
  | none => (c, .err)
  | some job =>
    if job.server != s then (c, .err) else
    let setState (c : Sched) : Sched :=
      { c with jobs := c.jobs.map fun x => if x.id == j then { x with state := st } else x }
    match job.state, st with
    | .pending, .ready => (setState c, .ok)
    | .ready, .started =>
      match c.findSrv s with
      | some v => (setState (c.setSrv { v with unclaimed := v.unclaimed.erase j }), .ok)
      | none => (setState c, .ok)
    | .started, .complete =>
      let c1 := { c with jobs := c.jobs.filter (·.id != j) }
      match c1.findSrv s with
      | some v =>
        if v.assigned.contains j then (c1.setSrv { v with assigned := v.assigned.erase j }, .ok)
        else ({ c1 with poisoned := true }, .panic)              -- assert!(jobs_assigned.remove(..))
      | none => (c1, .err)
    | _, _ => (c, .err)

def status (c : Sched) : Nat × Nat × Nat :=
  (c.servers.length, (c.servers.map (·.cpus)).sum, c.jobs.length)

/-! Property predicates of C18 (statements; proofs belong to the implementation rounds) -/

def Attribution (c : Sched) : Prop :=
  ∀ j ∈ c.jobs, ∃ v ∈ c.servers, v.id = j.server ∧ j.id ∈ v.assigned

def Capacity (c : Sched) : Prop :=
  ∀ v ∈ c.servers, v.assigned.length ≤ capOf v.cpus ∧
    (c.jobs.filter (·.server == v.id)).length ≤ capOf v.cpus

end Sched

end SchedM
