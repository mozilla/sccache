namespace TcM

/-! The toolchain cache at content level (C17). Evictions of the underlying
    LRU are an arbitrary `evict` step; `digest` identifies content (collisions aside). -/

abbrev Store := Nat → Option Nat     -- archive id ↦ digest of the bytes stored under that id

inductive TcOp where
  | insertWith (id : Nat) (contentDigest : Nat)    -- upload under a declared id
  | insertFile (contentDigest : Nat)               -- client side: id := digest of the file
  | remove (id : Nat)
  | evict (id : Nat)
  | reopen
deriving Repr, DecidableEq

def supd (s : Store) (k : Nat) (v : Option Nat) : Store := fun x => if x = k then v else s x

/-- pinned `TcCache::insert_with`: the file is written under the declared id, re-hashed, and on a mismatch an
    error is returned — but the file stays (`// TODO: remove created toolchain?`) -/
def tcStepPinned (s : Store) : TcOp → Store
  | .insertWith id d => supd s id (some d)
  | .insertFile d => supd s d (some d)
  | .remove id => supd s id none
  | .evict id => supd s id none
  | .reopen => s

/-- planned repair: remove the entry when the digest does not match -/
def tcStepFixed (s : Store) : TcOp → Store
  | .insertWith id d => if d = id then supd s id (some d) else supd s id none
  | .insertFile d => supd s d (some d)
  | .remove id => supd s id none
  | .evict id => supd s id none
  | .reopen => s

def TcSound (s : Store) : Prop := ∀ id d, s id = some d → d = id

end TcM
