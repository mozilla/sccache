namespace StartupM

/-! Cold start of several clients against one address (C20). -/

inductive SrvState where
  | starting            -- process spawned, has not tried to bind yet
  | serving             -- bound the address, notified `Ok`, serves
  | exitedAddrInUse     -- bind failed with AddrInUse, notified the parent, exited
deriving Repr, DecidableEq

inductive CliState where
  | fresh
  | waiting (srv : Nat)     -- connection refused, spawned server `srv`, waits for its start-up notification
  | connected (srv : Nat)
deriving Repr, DecidableEq

structure Net where
  unixSocket : Bool                 -- `true`: the UNREPAIRED Unix-path bind (unlink whatever is there, then bind); `false`: an exclusive bind —
                                    -- a TCP port, and since fix F-C20-a also a Unix path (lock file, liveness probe, only then unlink + bind)
  bound : Option Nat                -- which server the address currently leads to
  servers : List SrvState           -- index = server id
  clients : List CliState           -- index = client id
deriving Repr, DecidableEq

inductive SAct where
  | connect (c : Nat)       -- `connect_to_server`; on refusal spawn a server and wait
  | bind (s : Nat)          -- the spawned server tries to bind
  | notified (c : Nat)      -- the client got `Ok` or `AddrInUse` from its child and reconnects
deriving Repr, DecidableEq

def Net.init (unixSocket : Bool) (nClients : Nat) : Net :=
  { unixSocket := unixSocket, bound := none, servers := [], clients := List.replicate nClients .fresh }

/-- what `bind` does to the address table: (new owner, outcome for the binding server) -/
def bindOutcome (unixSocket : Bool) (bound : Option Nat) (s : Nat) : Option Nat × SrvState :=
  if unixSocket then (some s, .serving)            -- remove_file + bind: always succeeds (before fix F-C20-a)
  else match bound with
    | none => (some s, .serving)
    | some b => (some b, .exitedAddrInUse)

def sstep (n : Net) : SAct → Net
  | .connect c =>
    match n.clients[c]? with
    | some .fresh =>
      match n.bound with
      | some s => { n with clients := n.clients.set c (.connected s) }
      | none => { n with servers := n.servers ++ [.starting], clients := n.clients.set c (.waiting n.servers.length) }
    | _ => n
  | .bind s =>
    match n.servers[s]? with
    | some .starting =>
      { n with bound := (bindOutcome n.unixSocket n.bound s).1,
               servers := n.servers.set s (bindOutcome n.unixSocket n.bound s).2 }
    | _ => n
  | .notified c =>
    match n.clients[c]? with
    | some (.waiting s) =>
      match n.servers[s]?, n.bound with
      | some .starting, _ => n                                   -- no notification yet
      | some _, some b => { n with clients := n.clients.set c (.connected b) }
      | _, _ => n
    | _ => n

def srun (n : Net) (as : List SAct) : Net := as.foldl sstep n

def servingCount (n : Net) : Nat := (n.servers.filter (· = .serving)).length

end StartupM
