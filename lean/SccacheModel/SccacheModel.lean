-- root: every model, generated table, proof and property module
import SccacheModel.Model.Args
import SccacheModel.Model.AtFile
import SccacheModel.Model.Atomic
import SccacheModel.Model.Client
import SccacheModel.Model.ClientTc
import SccacheModel.Model.Config
import SccacheModel.Model.Crc
import SccacheModel.Model.Dist
import SccacheModel.Model.Entry
import SccacheModel.Model.EntryRead
import SccacheModel.Model.Frame
import SccacheModel.Model.Idle
import SccacheModel.Model.Key
import SccacheModel.Model.Lru
import SccacheModel.Model.Manifest
import SccacheModel.Model.Memo
import SccacheModel.Model.Paths
import SccacheModel.Model.Recorder
import SccacheModel.Model.RustArgs
import SccacheModel.Model.RustKey
import SccacheModel.Model.RustRequest
import SccacheModel.Model.Sched
import SccacheModel.Model.ServerL1
import SccacheModel.Model.Shutdown
import SccacheModel.Model.Spec
import SccacheModel.Model.Startup
import SccacheModel.Model.Stats
import SccacheModel.Model.StatsTypes
import SccacheModel.Model.TcCache
import SccacheModel.Model.TcPaths
import SccacheModel.Model.TimeMacro
import SccacheModel.Model.Tokens
import SccacheModel.Gen.Args
import SccacheModel.Gen.Consts
import SccacheModel.Gen.KeyConsts
import SccacheModel.Gen.RustArgs
import SccacheModel.Gen.StatsTable
import SccacheModel.Proofs.Args
import SccacheModel.Proofs.ArgsPolicy
import SccacheModel.Proofs.AtFile
import SccacheModel.Proofs.Atomic
import SccacheModel.Proofs.ByteOrder
import SccacheModel.Proofs.Client
import SccacheModel.Proofs.Config
import SccacheModel.Proofs.Crc
import SccacheModel.Proofs.Dist
import SccacheModel.Proofs.Entry
import SccacheModel.Proofs.Frame
import SccacheModel.Proofs.FrameCodec
import SccacheModel.Proofs.Idle
import SccacheModel.Proofs.Key
import SccacheModel.Proofs.KeyLangSep
import SccacheModel.Proofs.ListAux
import SccacheModel.Proofs.Lru
import SccacheModel.Proofs.LruReadOnly
import SccacheModel.Proofs.LruSync
import SccacheModel.Proofs.MakeQuote
import SccacheModel.Proofs.Manifest
import SccacheModel.Proofs.Memo
import SccacheModel.Proofs.Paths
import SccacheModel.Proofs.Recorder
import SccacheModel.Proofs.RustArgs
import SccacheModel.Proofs.RustKey
import SccacheModel.Proofs.Sched
import SccacheModel.Proofs.SchedWitness
import SccacheModel.Proofs.ServerL1
import SccacheModel.Proofs.Shutdown
import SccacheModel.Proofs.Spec
import SccacheModel.Proofs.Startup
import SccacheModel.Proofs.Stats
import SccacheModel.Proofs.TcCache
import SccacheModel.Proofs.TimeMacro
import SccacheModel.Proofs.Tokens
import SccacheModel.Props.C01
import SccacheModel.Props.C02
import SccacheModel.Props.C03
import SccacheModel.Props.C04
import SccacheModel.Props.C05
import SccacheModel.Props.C06
import SccacheModel.Props.C07
import SccacheModel.Props.C08
import SccacheModel.Props.C09
import SccacheModel.Props.C10
import SccacheModel.Props.C11
import SccacheModel.Props.C12
import SccacheModel.Props.C13
import SccacheModel.Props.C14
import SccacheModel.Props.C15
import SccacheModel.Props.C16
import SccacheModel.Props.C17
import SccacheModel.Props.C18
import SccacheModel.Props.C19
import SccacheModel.Props.C20
